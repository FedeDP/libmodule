import Lm.Generated.Mem
import Lm.Mem
import Lm.Inv.Mem
import Lm.Inst.Mem
import Lm.Props.C10
import Lm.Generated.Bst
import Lm.Struct.Bst
import Lm.Struct.BstCmp
import Lm.Inv.Bst
import Lm.Inv.BstItr
import Lm.Inv.BstRun
import Lm.Inst.Bst
import Lm.Props.C11
import Lm.Generated.Map
import Lm.Struct.Map
import Lm.Struct.MapGen
import Lm.Props.C05
import Lm.Inv.Map
import Lm.Inv.MapOps
import Lm.Inv.MapGen
import Lm.Inv.MapIter
import Lm.Inv.MapRun
import Lm.Core.Machine
import Lm.Props.C01
import Lm.Struct.Chain
import Lm.Struct.Queue
import Lm.Struct.Stack
import Lm.Struct.ListM
import Lm.Spec.C12
import Lm.Inv.Chain
import Lm.Inv.ChainOps
import Lm.Inv.C12Refine
import Lm.Inv.C12Queue
import Lm.Inv.C12Stack
import Lm.Inv.C12List
import Lm.Inv.C12Visit
import Lm.Inv.C12VisitList
import Lm.Inv.C12Old
import Lm.Inv.C12Dtor
import Lm.Props.C12
import Lm.Thpool
import Lm.Props.C06
import Lm.Core.Lemmas
import Lm.Core.Logic
import Lm.Inv.CoreAbs
import Lm.Inv.CoreInv
import Lm.Inv.CoreSafe
import Lm.Inv.CoreGuards
import Lm.Inv.CoreOut
import Lm.Inv.CoreTell
import Lm.Props.C02
import Lm.Props.C03
import Lm.Props.C04
import Lm.Props.C07
import Lm.Props.C08
import Lm.Props.C09
import Lm.Props.C13
import Lm.Props.C15
import Lm.Props.C16
import Lm.Props.C17
import Lm.Props.C18
import Lm.Props.C19
import Lm.Props.C20
import Lm.Inst.CoreTie
import Lm.Inv.CoreForeign
import Lm.Multi
import Lm.Props.C14
