import Lm.Core.Machine
/-!
# Several threads, each with its own context (C14)

`World` = one core machine per thread.  There is deliberately **no shared component**: that the library has no mutable
state shared between contexts is not assumed here but established from the source on every run
(`Lm.Generated.Statics`, theorem `C14_no_shared_mutable_statics`), and sampled on the compiled code by the concurrent
correspondence runs and ThreadSanitizer.  A line of thread `t` is a step of thread `t`'s machine; a call that crosses
threads (`foreign`, `xtell`) is a line of the *owner's* script — the owner's objects are the ones that could be affected.
-/
namespace Lm.Multi
open Lm.Core

structure World where
  threads : List Cfg := []

structure Line where
  t : Nat
  op : Op

def wstep (w : World) (l : Line) : World :=
  { threads := w.threads.modify l.t (fun c => step c l.op) }

def wrun (w : World) (ls : List Line) : World := ls.foldl wstep w

def project (t : Nat) (ls : List Line) : List Op := (ls.filter (·.t == t)).map (·.op)

theorem wstep_same (w : World) (l : Line) (t : Nat) (h : l.t = t) :
    (wstep w l).threads[t]? = (w.threads[t]?).map (fun c => step c l.op) := by
  subst h
  simp [wstep]

theorem wstep_other (w : World) (l : Line) (t : Nat) (h : l.t ≠ t) :
    (wstep w l).threads[t]? = w.threads[t]? := by
  simp [wstep, h]

/-- **Non-interference.**  For every interleaving `ls` of the threads' scripts, thread `t` ends in exactly the
configuration — state, pending callbacks and complete output trace — that its own lines produce when run alone. -/
theorem interleaving_irrelevant (ls : List Line) (w : World) (t : Nat) :
    (wrun w ls).threads[t]? = (w.threads[t]?).map (fun c => run c (project t ls)) := by
  induction ls generalizing w with
  | nil => simp [wrun, project, run]
  | cons l rest ih =>
    show (wrun (wstep w l) rest).threads[t]? = _
    rw [ih]
    by_cases hl : l.t = t
    · rw [wstep_same w l t hl, show project t (l :: rest) = l.op :: project t rest by simp [project, hl]]
      cases w.threads[t]? <;> rfl
    · rw [wstep_other w l t hl, show project t (l :: rest) = project t rest by simp [project, hl]]

end Lm.Multi
