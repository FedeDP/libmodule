import Lm.Generated.Bst
import Lm.Struct.BstCmp
import Lm.Inv.Bst
/-!
The theorems of `Lm.Props.C11` are parametric in a comparator satisfying `TotalOrderCmp`.  This file
proves that obligation for `Lm.Generated.Bst.ptrcmp`, the translation of `ptrcmp()` in
`Lib/structs/bst.c` that is rewritten from the C source on every run (tie A), for all 2^64 × 2^64 pairs
of addresses: the term is the three-way comparison of the two addresses as unsigned numbers, and
every three-way comparison of a natural-number key is a total-order comparator.
-/
namespace Lm.Inst.Bst
open Lm.Generated.Bst Lm.Struct.Bst

def threeWay (x y : Nat) : Int := (if x > y then 1 else 0) - (if x < y then 1 else 0)

theorem threeWay_sign (x y : Nat) : (threeWay x y = 0 ↔ x = y) ∧ (threeWay x y < 0 ↔ x < y) := by
  unfold threeWay; split <;> split <;> omega

theorem threeWay_total {α : Type} (key : α → Nat) : TotalOrderCmp (fun a b : α => threeWay (key a) (key b)) := by
  refine ⟨fun a => (threeWay_sign _ _).1.mpr rfl, fun a b => ?_, fun a b c => ?_⟩
  · have := threeWay_sign (key a) (key b); have := threeWay_sign (key b) (key a); omega
  · have := threeWay_sign (key a) (key b); have := threeWay_sign (key b) (key c); have := threeWay_sign (key a) (key c)
    omega

/-- The obligation of tie A: this is the proof that fails when the regenerated `ptrcmp` is not the
unsigned three-way comparison of the addresses. -/
theorem ptrcmp_eq (a b : BitVec 64) : (ptrcmp a b).toInt = threeWay a.toNat b.toNat := by
  by_cases h1 : a.toNat < b.toNat <;> by_cases h2 : b.toNat < a.toNat <;>
    simp [ptrcmp, threeWay, BitVec.ult, h1, h2]

theorem ptrcmp_total : TotalOrderCmp (fun a b : BitVec 64 => (ptrcmp a b).toInt) := by
  simp only [ptrcmp_eq]; exact threeWay_total BitVec.toNat

theorem defaultCmp_total : TotalOrderCmp defaultCmp := ptrcmp_total.comap (BitVec.ofNat 64)

theorem defaultCmp_eq {a b : Val} (ha : a < 2 ^ 64) (hb : b < 2 ^ 64) : defaultCmp a b = threeWay a b := by
  rw [defaultCmp, ptrcmp_eq, BitVec.toNat_ofNat, BitVec.toNat_ofNat, Nat.mod_eq_of_lt ha, Nat.mod_eq_of_lt hb]

theorem keyCmp_total (key : Val → Nat) : TotalOrderCmp (keyCmp key) := threeWay_total key

theorem userCmp_total : TotalOrderCmp userCmp := keyCmp_total _

end Lm.Inst.Bst
