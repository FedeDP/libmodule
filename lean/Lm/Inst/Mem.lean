import Lm.Generated.Mem
/-!
# The block layout regenerated from the source, evaluated (tie A)

`Lm.Generated.Mem` holds the size and offset arithmetic of `m_mem_new` and `get_header`, rewritten
from `Lib/mem/mem.c` on every run.  Header size and alignment are constants of the translation unit,
so every expression but `allocSize` is closed.  The layout theorems of `Lm.Props.C10` are read off
these values, and an edit of the source that moves one of them breaks its evaluation here.
-/
namespace Lm.Inst.Mem
open Lm.Generated.Mem

theorem dataOff_eq (size : BitVec 64) : dataOff size = 32#64 := by simp only [dataOff]; decide

theorem shiftOff_eq (size : BitVec 64) : shiftOff size = 31#64 := by simp only [shiftOff]; decide

theorem shiftVal_eq (size : BitVec 64) : shiftVal size = 8#8 := by simp only [shiftVal]; decide

theorem allocSize_eq (size : BitVec 64) : allocSize size = 32#64 + size := by simp only [allocSize]; congr 1

end Lm.Inst.Mem
