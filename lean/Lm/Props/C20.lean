import Lm.Inv.CoreOut
/-! # C20 — Descriptors: AUTOCLOSE closes once at removal, nothing else closes a user descriptor

Partial: the model records `close` events (which descriptor, in which step); that the C code issues the matching
`close(2)` calls on exactly those descriptors is observed by the correspondence runs (wrapped `close`), and descriptor
leaks are outside the model.  The statements below are about the state transformers every stop / pause / reset /
deregistration path is built from; lifting them to whole histories (through user callbacks) is not done. -/
namespace Lm.Props.C20
open Lm.Core

/-- removing a source closes its descriptor exactly when it was registered with AUTOCLOSE (subscriptions own none) -/
theorem C20_close_iff_autoclose (s : St) (i : SrcId) (x : Src) (hx : s.srcs[i]? = some x) :
    (destroySrc s i).out = if x.autoclose && !x.isSub then s.out ++ [.close (.fd x.key)] else s.out := by
  simp only [destroySrc, hx]
  split <;> simp [St.emit]

/-- a descriptor registered without AUTOCLOSE is never closed by the library when its source goes away -/
theorem C20_user_fd_left_alone (s : St) (i : SrcId) (x : Src) (hx : s.srcs[i]? = some x) (ha : x.autoclose = false) :
    (destroySrc s i).out = s.out := by
  rw [C20_close_iff_autoclose s i x hx]; simp [ha]

/-- once removed a source is neither registered nor polled, so no later pass can reach (and close) it again -/
theorem C20_removed_source_is_gone (s : St) (i : SrcId) (x : Src) (hx : s.srcs[i]? = some x) :
    ∃ y, (destroySrc s i).srcs[i]? = some y ∧ y.registered = false ∧ y.polled = false := by
  obtain ⟨hlt, hget⟩ := List.getElem?_eq_some_iff.mp hx
  refine ⟨{ x with registered := false, polled := false }, ?_, rfl, rfl⟩
  simp only [destroySrc, hx]
  split <;> simp [St.emit, St.updSrc, hlt, hget]

/-- removal also takes the source out of its module's lists, which are the only way the library finds sources -/
theorem C20_removed_from_owner_lists (s : St) (m : ModId) (i : SrcId) (md : Mod) (hm : s.mods[m]? = some md) :
    ∃ md', (s.updMod m fun md => { md with srcs := md.srcs.filter (· != i), subs := md.subs.filter (· != i) }).mods[m]? = some md' ∧
      i ∉ md'.srcs ∧ i ∉ md'.subs :=
  ⟨_, updMod_self _ hm, by simp, by simp⟩

/-- everything the stop path (`manage_srcs(RM, stop)`) writes to the trace is a payload free, a pipe end, or the close
of a descriptor whose source was registered with AUTOCLOSE; in particular no plain user descriptor and no duplicate -/
theorem C20_stop_closes_only_autoclose (s : St) (m : ModId) (stop : Bool) :
    ∃ l, (manageSrcsRm s m stop).out = s.out ++ l ∧ ∀ o ∈ l, Allowed s o :=
  (emits_manageSrcsRm m stop s).2

/-- pausing (`manage_srcs(RM, stop = false)`) closes nothing at all -/
theorem C20_pause_closes_nothing (s : St) (m : ModId) : (manageSrcsRm s m false).out = s.out := by
  unfold manageSrcsRm
  split
  · rfl
  · simp only [Bool.false_eq_true, if_false]
    have : ∀ (l : List SrcId) (t : St), (l.foldl (fun s i => s.updSrc i fun x => { x with polled := false }) t).out = t.out :=
      fun l t => List.foldlRecOn (motive := fun u : St => u.out = t.out) l _ rfl fun u hu i _ => (updSrc_out u i _).trans hu
    rw [this, updMod_eq]

/-- the same for `reset_module` (run by stop and by deregistration) -/
theorem C20_reset_closes_only_autoclose (s : St) (m : ModId) :
    ∃ l, (resetModule s m).out = s.out ++ l ∧ ∀ o ∈ l, Allowed s o :=
  (emits_resetModule m s).2

/-- `Allowed` is what it says: a descriptor close is allowed only for an AUTOCLOSE, non-subscription source -/
theorem C20_allowed_fd (s : St) (k : Nat) (h : Allowed s (.close (.fd k))) :
    ∃ (i : Nat) (x : Src), s.srcs[i]? = some x ∧ x.key = k ∧ x.autoclose = true ∧ x.isSub = false := h

theorem updMod_get (t : St) (m : ModId) (f : Mod → Mod) (md : Mod) (h : (t.updMod m f).mods[m]? = some md) :
    (∃ md0, t.mods[m]? = some md0 ∧ md = f md0) := by
  rw [updMod_getElem?_self] at h
  obtain ⟨md0, h0, rfl⟩ := Option.map_eq_some_iff.mp h
  exact ⟨md0, h0, rfl⟩

/-- after `reset_module` the module has no pipe, so a second reset closes no pipe end again -/
theorem C20_reset_leaves_no_pipe (s : St) (m : ModId) (md : Mod) (hm : (resetModule s m).mods[m]? = some md) : md.pipe = none := by
  unfold resetModule at hm
  cases h0 : s.mods[m]? with
  | none => simp only [h0] at hm; cases hm
  | some md0 =>
    simp only [h0] at hm
    obtain ⟨md1, _, rfl⟩ := updMod_get _ m Mod.reset md hm
    rfl

-- non-vacuity: an AUTOCLOSE descriptor is closed, a plain one is not
example : (destroySrc { srcs := [{ kind := .fd, owner := 0, key := 7, autoclose := true }] } 0).out = [.close (.fd 7)] := by decide +kernel
example : (destroySrc { srcs := [{ kind := .fd, owner := 0, key := 7, autoclose := false }] } 0).out = [] := by decide +kernel

end Lm.Props.C20
