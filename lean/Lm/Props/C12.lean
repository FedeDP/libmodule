import Lm.Inv.C12VisitList
import Lm.Inv.C12Old
/-!
# C12 — Queue, stack, list keep their order discipline under all ops and iterators

Property theorems only.  Models: `Lm.Struct.{Chain,Queue,Stack,ListM}` (linked chains with node
identities, the queue's `tail` pointer, iterator links, transcribed from `Lib/structs/{queue,stack,
list}.c` after the D-12a / D-12b fixes; tied to the compiled library by the correspondence check).
Spec: the array machines of `Lm.Spec.C12` (content = plain list, iterator = cursor index).

Histories: every finite sequence of API calls on one container handle and one iterator handle,
subject to the iterator-invalidation rule `okRun` (while an iterator is live the container is
modified only through it — or, for the queue, by `enq`, which never touches a node an iterator can
point into; `free` abandons an iterator).  NULL handles (calls after `free`, iterator
calls without / after the end of an iteration) and NULL data are part of the histories.
-/
namespace Lm.Props.C12
open Lm.Struct Lm.Spec.C12

/-! ## Well-formedness is preserved by every operation, iterator operations at every position included -/

/-- Queue: after every history the chain is well formed and **the tail pointer names the last node**
(this is what D-12a broke), whatever was removed through iterators and wherever. -/
theorem C12_queue_wellformed (dtor : Bool) (ops : List Queue.Op) (h : Queue.okRun (Queue.new dtor) ops = true) :
    WellFormed .queue (Queue.run (Queue.new dtor) ops) :=
  wellFormed_of_R (Queue.run_R ops (Queue.init_R dtor) h).1

theorem C12_stack_wellformed (dtor : Bool) (ops : List Stack.Op) (h : Stack.okRun (Stack.new dtor) ops = true) :
    WellFormed .stack (Stack.run (Stack.new dtor) ops) :=
  wellFormed_of_R (Stack.run_R ops (Stack.init_R dtor) h).1

theorem C12_list_wellformed (eq : Val → Val → Bool) (dtor cmp : Bool) (ops : List ListM.Op)
    (h : ListM.okRun eq (ListM.new dtor cmp) ops = true) :
    WellFormed .list (ListM.run eq (ListM.new dtor cmp) ops) :=
  wellFormed_of_R (ListM.run_R eq ops (ListM.init_R dtor cmp) h).1

/-! ## Refinement: the linked structures behave as the array machines

For every history the chain model returns the same value for every call, produces the same
destructor / iterator-position / callback events, and ends with the same content as the array
machine, in which: `enq` appends and `deq`/`peek`/`rm` take the first element (FIFO); `push`
prepends and `pop`/`peek`/`rm` take the first element (LIFO); `ins` adds one element leaving the
others in order, `find`/`rm` hit the first element with `cmp = 0` or the same pointer; an iterator
is a cursor index; the destructor is called exactly for the elements dropped by
`rm`/`clear`/`free`/`it rm` and never for the ones returned by `deq`/`pop`. -/

theorem C12_queue_refines_fifo (dtor : Bool) (ops : List Queue.Op) (h : Queue.okRun (Queue.new dtor) ops = true) :
    Queue.trace (Queue.new dtor) ops = Spec.C12.Queue.trace (Spec.C12.Queue.init dtor) ops ∧
    content (Queue.run (Queue.new dtor) ops) = (Spec.C12.Queue.run (Spec.C12.Queue.init dtor) ops).xs ∧
    (Queue.run (Queue.new dtor) ops).log.map absEv = (Spec.C12.Queue.run (Spec.C12.Queue.init dtor) ops).out := by
  have := Queue.run_R ops (Queue.init_R dtor) h
  exact ⟨this.2, content_of_R this.1⟩

theorem C12_stack_refines_lifo (dtor : Bool) (ops : List Stack.Op) (h : Stack.okRun (Stack.new dtor) ops = true) :
    Stack.trace (Stack.new dtor) ops = Spec.C12.Stack.trace (Spec.C12.Stack.init dtor) ops ∧
    content (Stack.run (Stack.new dtor) ops) = (Spec.C12.Stack.run (Spec.C12.Stack.init dtor) ops).xs ∧
    (Stack.run (Stack.new dtor) ops).log.map absEv = (Spec.C12.Stack.run (Spec.C12.Stack.init dtor) ops).out := by
  have := Stack.run_R ops (Stack.init_R dtor) h
  exact ⟨this.2, content_of_R this.1⟩

/-- for every comparator `eq` (no assumption on it at all) -/
theorem C12_list_refines_multiset (eq : Val → Val → Bool) (dtor cmp : Bool) (ops : List ListM.Op)
    (h : ListM.okRun eq (ListM.new dtor cmp) ops = true) :
    ListM.trace eq (ListM.new dtor cmp) ops = Spec.C12.ListM.trace eq (Spec.C12.ListM.init dtor cmp) ops ∧
    content (ListM.run eq (ListM.new dtor cmp) ops) = (Spec.C12.ListM.run eq (Spec.C12.ListM.init dtor cmp) ops).xs ∧
    (ListM.run eq (ListM.new dtor cmp) ops).log.map absEv = (Spec.C12.ListM.run eq (Spec.C12.ListM.init dtor cmp) ops).out := by
  have := ListM.run_R eq ops (ListM.init_R dtor cmp) h
  exact ⟨this.2, content_of_R this.1⟩

/-- What the list machine's `ins` and `rm`/`find` mean, said directly: an insertion adds exactly one
element and leaves the others in their order (erasing it again gives the old list back); a removal
leaves the others in their order; the element hit by `find`/`rm` is the *first* one that the
comparator calls equal or that is the same pointer. -/
theorem C12_list_ops_stable (eq : Val → Val → Bool) (cmp : Bool) (xs : List Val) (i : Nat) (v : Val) :
    (xs.insertIdx i v).eraseIdx i = xs ∧
    (i ≤ xs.length → (xs.insertIdx i v).Perm (v :: xs)) ∧
    (xs.eraseIdx i).Sublist xs ∧
    (∀ (h : xs.findIdx (Spec.C12.ListM.hits eq cmp v) < xs.length),
        Spec.C12.ListM.hits eq cmp v xs[xs.findIdx (Spec.C12.ListM.hits eq cmp v)] = true) ∧
    (∀ j (h : j < xs.findIdx (Spec.C12.ListM.hits eq cmp v)),
        Spec.C12.ListM.hits eq cmp v (xs[j]'(Nat.lt_of_lt_of_le h List.findIdx_le_length)) = false) :=
  ⟨List.eraseIdx_insertIdx_self v, fun h => List.perm_insertIdx v xs h, List.eraseIdx_sublist xs i,
   fun _ => List.findIdx_getElem, fun _ h => List.not_of_lt_findIdx h⟩

/-- First in, first out, said directly: in a history of `enq`/`deq`/`peek`/`len` calls the pointers
handed back by `deq`, in the order of the calls, followed by the content of the queue, are exactly
the pointers enqueued, in the order of the `enq` calls. -/
theorem C12_queue_fifo_order (dtor : Bool) (ops : List Queue.Op)
    (hp : ops.all (fun o => match o with | .enq _ | .deq | .peek | .len => true | _ => false) = true) :
    let L := Spec.C12.Queue.ledger (Spec.C12.Queue.init dtor) {} ops
    L.entered = L.handed ++ content (Queue.run (Queue.new dtor) ops) := by
  exact Queue.fifo_run ops hp (Queue.init_R dtor) rfl rfl

/-- Lengths are exact: what `m_*_len` reports is the number of elements (or `-EINVAL` for NULL). -/
theorem C12_len_exact {k : Kind} {s : St} (h : WellFormed k s) :
    cLen s.obj = (match s.obj with | some _ => ((content s).length : Int) | none => EINVAL) := by
  cases ho : s.obj with
  | none => rfl
  | some q => simp [cLen, content, ho, (h.cont q ho).1, vals]

/-! ## Iterators visit every remaining element exactly once, in container order

`visited log` lists the *node identities* an iterator was positioned on by `itr_new` / `itr_next`
(the harness prints the value of each as a `cur` line, so this sequence is compared with the
library on every run).  An iteration is `it new` followed by any interleaving of
`it next / it get / it set / it rm` (list: also `it ins`) and calls that do not modify the container
(`Op.inIteration`); it starts in any reachable state with a non-empty container. -/

/-- Queue: whatever is read, replaced or removed through the iterator and wherever (first, middle,
last element), the nodes visited are exactly the first `n` nodes the queue had when the iterator
was created, in queue order, each once; when the iterator has reached the end (`itr = none`) that
is all of them.  The queue then consists of those visited nodes that were not removed, in their
old order, followed by the nodes not yet visited. -/
theorem C12_queue_iterator_visits_each_once (dtor : Bool) (before : List Queue.Op)
    (hb : Queue.okRun (Queue.new dtor) before = true) (q0 : Cont)
    (h0 : (Queue.run (Queue.new dtor) before).obj = some q0) (hne : q0.chain ≠ [])
    (ops : List Queue.Op) (hops : ops.all Queue.Op.inIteration = true) :
    let s0 := Queue.run (Queue.new dtor) before
    let s := Queue.run (Queue.step s0 .itNew).1 ops
    ∃ n q, visited s.log = visited s0.log ++ (ids q0.chain).take n ∧ (s.itr = none → n = (ids q0.chain).length) ∧
      s.obj = some q ∧ (ids q.chain).Sublist (ids q0.chain) ∧
      ∃ kept, kept.Sublist ((ids q0.chain).take n) ∧ ids q.chain = kept ++ (ids q0.chain).drop n := by
  intro s0 s
  have hR := (Queue.run_R before (Queue.init_R dtor) hb).1
  exact (foldl_inv Queue.vis_step ops (vis_itrNew hR h0) hops).result

/-- Stack: the same statement. -/
theorem C12_stack_iterator_visits_each_once (dtor : Bool) (before : List Stack.Op)
    (hb : Stack.okRun (Stack.new dtor) before = true) (q0 : Cont)
    (h0 : (Stack.run (Stack.new dtor) before).obj = some q0) (hne : q0.chain ≠ [])
    (ops : List Stack.Op) (hops : ops.all Stack.Op.inIteration = true) :
    let s0 := Stack.run (Stack.new dtor) before
    let s := Stack.run (Stack.step s0 .itNew).1 ops
    ∃ n q, visited s.log = visited s0.log ++ (ids q0.chain).take n ∧ (s.itr = none → n = (ids q0.chain).length) ∧
      s.obj = some q ∧ (ids q.chain).Sublist (ids q0.chain) ∧
      ∃ kept, kept.Sublist ((ids q0.chain).take n) ∧ ids q.chain = kept ++ (ids q0.chain).drop n := by
  intro s0 s
  have hR := (Stack.run_R before (Stack.init_R dtor) hb).1
  exact (foldl_inv Stack.vis_step ops (vis_itrNew hR h0) hops).result

/-- List (the iterator can also insert, and after a removal it can remove elements it has not
visited): no node is ever visited twice; when the iterator has reached the end, every node that was
in the list when the iterator was created and is still there has been visited, and the visited nodes
still present stand in the list in the order in which they were visited. -/
theorem C12_list_iterator_visits_each_once (eq : Val → Val → Bool) (dtor cmp : Bool) (before : List ListM.Op)
    (hb : ListM.okRun eq (ListM.new dtor cmp) before = true) (q0 : Cont)
    (h0 : (ListM.run eq (ListM.new dtor cmp) before).obj = some q0) (hne : q0.chain ≠ [])
    (ops : List ListM.Op) (hops : ops.all ListM.Op.inIteration = true) :
    let s0 := ListM.run eq (ListM.new dtor cmp) before
    let s := ListM.run eq (ListM.step eq s0 .itNew).1 ops
    ∃ vis q, visited s.log = visited s0.log ++ vis ∧ s.obj = some q ∧ vis.Nodup ∧
      (s.itr = none →
        (∀ x ∈ ids q.chain, x ∈ ids q0.chain → x ∈ vis) ∧
        (ids q.chain).filter (fun x => decide (x ∈ vis)) = vis.filter (fun x => decide (x ∈ ids q.chain))) := by
  intro s0 s
  have hR := (ListM.run_R eq before (ListM.init_R dtor cmp) hb).1
  exact (foldl_inv (ListM.lvis_step eq) ops (ListM.lvis_itrNew hR h0) hops).result

/-! ## The destructor runs exactly once per dropped element, never for a returned one

`Ledger` (computed from the history with the array machine) records what the caller did: the
pointers it stored (`enq`/`push`/`ins`/`it ins`, and the new pointer of a successful `it set`), the
pointers handed back to it by `deq`/`pop`, and the pointers it overwrote with `it set`.
`destroyed` are the arguments of the destructor calls of the chain model, in order. -/

/-- Queue with a destructor: for every pointer value, counted with multiplicity,
stored = still inside + handed back + overwritten by `it set` + destroyed. -/
theorem C12_queue_destructor_exactly_once (ops : List Queue.Op) (h : Queue.okRun (Queue.new true) ops = true) (y : Val) :
    let s := Queue.run (Queue.new true) ops
    let L := Spec.C12.Queue.ledger (Spec.C12.Queue.init true) {} ops
    L.entered.count y = (content s).count y + L.handed.count y + L.over.count y + (destroyed (s.log.map absEv)).count y := by
  intro s L
  have hr := C12_queue_refines_fifo true ops h
  have hb := Spec.C12.Queue.run_inv Eff.bal ops (a := Spec.C12.Queue.init true) (L := {}) ⟨fun _ => rfl, rfl⟩
  rw [hr.2.1, hr.2.2]
  exact hb.1 y

theorem C12_stack_destructor_exactly_once (ops : List Stack.Op) (h : Stack.okRun (Stack.new true) ops = true) (y : Val) :
    let s := Stack.run (Stack.new true) ops
    let L := Spec.C12.Stack.ledger (Spec.C12.Stack.init true) {} ops
    L.entered.count y = (content s).count y + L.handed.count y + L.over.count y + (destroyed (s.log.map absEv)).count y := by
  intro s L
  have hr := C12_stack_refines_lifo true ops h
  have hb := Spec.C12.Stack.run_inv Eff.bal ops (a := Spec.C12.Stack.init true) (L := {}) ⟨fun _ => rfl, rfl⟩
  rw [hr.2.1, hr.2.2]
  exact hb.1 y

theorem C12_list_destructor_exactly_once (eq : Val → Val → Bool) (cmp : Bool) (ops : List ListM.Op)
    (h : ListM.okRun eq (ListM.new true cmp) ops = true) (y : Val) :
    let s := ListM.run eq (ListM.new true cmp) ops
    let L := Spec.C12.ListM.ledger eq (Spec.C12.ListM.init true cmp) {} ops
    L.entered.count y = (content s).count y + L.handed.count y + L.over.count y + (destroyed (s.log.map absEv)).count y := by
  intro s L
  have hr := C12_list_refines_multiset eq true cmp ops h
  have hb := Spec.C12.ListM.run_inv eq Eff.bal ops (a := Spec.C12.ListM.init true cmp) (L := {}) ⟨fun _ => rfl, rfl⟩
  rw [hr.2.1, hr.2.2]
  exact hb.1 y

/-- Without a destructor nothing is ever destroyed (all three containers). -/
theorem C12_no_destructor_no_calls :
    (∀ ops, Queue.okRun (Queue.new false) ops = true → destroyed ((Queue.run (Queue.new false) ops).log.map absEv) = []) ∧
    (∀ ops, Stack.okRun (Stack.new false) ops = true → destroyed ((Stack.run (Stack.new false) ops).log.map absEv) = []) ∧
    (∀ eq cmp ops, ListM.okRun eq (ListM.new false cmp) ops = true →
      destroyed ((ListM.run eq (ListM.new false cmp) ops).log.map absEv) = []) := by
  refine ⟨?_, ?_, ?_⟩
  · intro ops h
    rw [(C12_queue_refines_fifo false ops h).2.2]
    exact (Spec.C12.Queue.run_inv (P := fun _ => NoD) Eff.nod ops (a := Spec.C12.Queue.init false) (L := {}) ⟨rfl, rfl⟩).2
  · intro ops h
    rw [(C12_stack_refines_lifo false ops h).2.2]
    exact (Spec.C12.Stack.run_inv (P := fun _ => NoD) Eff.nod ops (a := Spec.C12.Stack.init false) (L := {}) ⟨rfl, rfl⟩).2
  · intro eq cmp ops h
    rw [(C12_list_refines_multiset eq false cmp ops h).2.2]
    exact (Spec.C12.ListM.run_inv eq (P := fun _ => NoD) Eff.nod ops (a := Spec.C12.ListM.init false cmp) (L := {}) ⟨rfl, rfl⟩).2

/-! ## Non-vacuity: concrete histories -/

/-- queue: remove the last element through an iterator, keep using the queue (the D-12a scenario) -/
def demoQ : List Queue.Op :=
  [.enq 5, .enq 6, .enq 7, .itNew, .itNext, .itSet 9, .itNext, .itRm, .itNext, .enq 8, .deq, .rm, .deq, .deq, .len]

example : Queue.okRun (Queue.new true) demoQ = true := by decide
example : Queue.trace (Queue.new true) demoQ =
    [.int 0, .int 0, .int 0, .handle true, .int 0, .int 0, .int 0, .int 0, .int 0, .int 0,
     .ptr 5, .int 0, .ptr 8, .ptr 0, .int 0] := by decide
example : (Queue.run (Queue.new true) demoQ).log =
    [.cur (some ⟨0, 5⟩), .cur (some ⟨1, 6⟩), .cur (some ⟨2, 7⟩), .dtor 7, .dtor 9] := by decide

example : Spec.C12.Queue.ledger (Spec.C12.Queue.init true) {} demoQ =
    { entered := [5, 6, 7, 9, 8], handed := [5, 8], over := [6] } := by decide
example : destroyed ((Queue.run (Queue.new true) demoQ).log.map absEv) = [7, 9] := by decide

/-- list with comparator `v % 8`: insertion through the iterator, removal of inserted and current -/
def demoL : List ListM.Op :=
  [.ins 1, .ins 2, .ins 9, .itNew, .itIns 5, .itNext, .itRm, .itIns 4, .itNext, .itNext, .find 17, .rm 17, .len]

example : ListM.okRun (fun a b => a % 8 == b % 8) (ListM.new true true) demoL = true := by decide
example : content (ListM.run (fun a b => a % 8 == b % 8) (ListM.new true true) demoL) = [5, 4, 2] := by decide
example : visited (ListM.run (fun a b => a % 8 == b % 8) (ListM.new true true) demoL).log = [2, 0, 1] := by decide

/-! ## The unrepaired code does not satisfy the theorems (the invariants are not vacuous)

With `m_queue_itr_remove` / `m_list_itr_next` as they were before the fix commits
(`Lm.Inv.C12Old`), legal histories break the well-formedness invariant resp. visit an element twice. -/

/-- D-12a: after removing the last of two elements through the iterator the tail pointer is NULL
although the queue is not empty; the next enqueue is lost and the second dequeue dereferences NULL -/
theorem C12_D12a_unfixed_fails :
    let ops : List Queue.Op := [.enq 1, .enq 2, .itNew, .itNext, .itRm, .itNext, .enq 3, .deq, .deq]
    Queue.okRun (Queue.new false) ops = true ∧
    (∃ q, (Queue.runOld (Queue.new false) (ops.take 5)).obj = some q ∧ q.chain ≠ [] ∧ q.tail = none) ∧
    (Queue.runOld (Queue.new false) ops).fault = true ∧
    (Queue.run (Queue.new false) ops).fault = false := by
  refine ⟨by decide, ⟨_, rfl, by decide, by decide⟩, by decide, by decide⟩

/-- D-12b: after an insertion through the iterator the old `m_list_itr_next` visits node 0 twice -/
theorem C12_D12b_unfixed_fails :
    let ops : List ListM.Op := [.ins 1, .itNew, .itIns 2, .itNext]
    let eq : Val → Val → Bool := fun a b => a == b
    ListM.okRun eq (ListM.new false false) ops = true ∧
    visited (ListM.runOld eq (ListM.new false false) ops).log = [0, 0] ∧
    visited (ListM.run eq (ListM.new false false) ops).log = [0] := by
  refine ⟨by decide, by decide, by decide⟩

end Lm.Props.C12
