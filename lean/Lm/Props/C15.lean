import Lm.Inst.CoreTie
import Lm.Inv.CoreSafe
import Lm.Inv.CoreGuards
/-! # C15 — Names unique; deny, persist and reserved-topic restrictions enforced -/
namespace Lm.Props.C15
open Lm.Core

/-- in every reachable configuration (any history, any callback programs) two different modules of the
context's table never share a name -/
theorem C15_names_unique (ops : List Op) (m n : ModId) (a b : Mod)
    (ha : (run {} ops).st.mods[m]? = some a) (hb : (run {} ops).st.mods[n]? = some b)
    (hia : a.inCtx = true) (hib : b.inCtx = true) (hname : a.name = b.name) : m = n :=
  (reach_inv ops).1.names m n a.sig b.sig (sig_of_mod _ m a ha) (sig_of_mod _ n b hb) hia hib hname

/-- registering under a live name fails with -EEXIST and changes nothing, unless the existing module allows replacement -/
theorem C15_duplicate_name_refused (s : St) (c : Ctx) (name : String) (slot flags hooks) (old : ModId) (omd : Mod)
    (hn : name ≠ "") (hc : mctx s = some c) (hf : c.finalized = false) (ho : s.modByName name = some old)
    (hm : s.mods[old]? = some omd) (hr : omd.flags.allowReplace = false) :
    Refuses (apiRegister name slot flags hooks) s EEXIST := by
  simp [Refuses, apiRegister, String.isEmpty_eq_false_iff.mpr hn, hc, hf, ho, hm, hr]

/-- DENY_PUB: tell, publish, broadcast and poison pill fail and change nothing -/
theorem C15_deny_pub (s : St) (m : ModId) (md : Mod) (hm : s.mods[m]? = some md) (hd : md.flags.denyPub = true) :
    (∀ r p af, ∃ code : Int, code < 0 ∧ Refuses (apiTell m r p af) s code) ∧
    (∀ t p af, ∃ code : Int, code < 0 ∧ Refuses (apiPublish m t p af) s code) ∧
    (∀ r, ∃ code : Int, code < 0 ∧ Refuses (apiPill m r) s code) :=
  ⟨fun _ _ _ => guarded_refuses_perm s m md _ _ _ _ hm hd, fun _ _ _ => guarded_refuses_perm s m md _ _ _ _ hm hd,
   fun _ => guarded_refuses_perm s m md _ _ _ _ hm hd⟩

/-- DENY_SUB: subscribe and unsubscribe fail and change nothing -/
theorem C15_deny_sub (s : St) (m : ModId) (md : Mod) (hm : s.mods[m]? = some md) (hd : md.flags.denySub = true) :
    (∀ t sl p pb os u, ∃ code : Int, code < 0 ∧ Refuses (apiSubscribe m t sl p pb os u) s code) ∧
    (∀ t, ∃ code : Int, code < 0 ∧ Refuses (apiUnsubscribe m t) s code) :=
  ⟨fun _ _ _ _ _ _ => guarded_refuses_perm s m md _ _ _ _ hm hd, fun _ => guarded_refuses_perm s m md _ _ _ _ hm hd⟩

/-- DENY_CTX: while a callback of such a module is the executing one, `m_ctx()` yields nothing … -/
theorem C15_deny_ctx_hides_context (s : St) (c : Ctx) (cm : ModId) (md : Mod) (hc : s.ctx = some c)
    (hcur : c.currMod = some cm) (hm : s.mods[cm]? = some md) (hd : md.flags.denyCtx = true) : mctx s = none := by
  simp [mctx, hc, hcur, hm, hd]

/-- … hence every context call fails with -EPIPE and changes nothing (`ctx_calls_refused`), and so does every
guarded module call (with -EPERM) -/
theorem C15_deny_ctx_refuses (s : St) (h : mctx s = none) :
    (Refuses ctxDeregisterP s EPIPE ∧ Refuses apiFinalize s EPIPE ∧ Refuses apiDispatch s EPIPE ∧ Refuses apiLoop s EPIPE ∧
     (∀ c, Refuses (apiQuit c) s EPIPE) ∧ Refuses apiCtxLen s EPIPE ∧ (∀ n, Refuses (apiSetTick n) s EPIPE) ∧
     (∀ n sl f hk, n ≠ "" → Refuses (apiRegister n sl f hk) s EPIPE)) ∧
    (∀ (m : ModId) (md : Mod), s.mods[m]? = some md → md.state ≠ .zombie → modAssert s m = some EPERM) := by
  refine ⟨ctx_calls_refused s h, fun m md hm hz => ?_⟩
  have : (md.state == MState.zombie) = false := by simp [hz]
  simp [modAssert, hm, this, h]

/-- the executing module is restored after a nested callback: `optional_hook` / `call_pubsub_cb` bracket the user
callback with `curr_mod = mod` … `curr_mod = <what it was>`; for a hook that changes nothing the bracket is the identity
on `curr_mod` -/
theorem C15_curr_mod_restored (m : ModId) (s : St) (c : Ctx) (hc : s.ctx = some c) (hid : c.id = s.ctxIdOf m) :
    currOf (setCurrOf m (currOfMod s m) (setCurrOf m (some m) s)) = currOf s := by
  have e0 : currOfMod s m = c.currMod := by simp [currOfMod, hc, hid]
  have e2 : ∀ x, (setCurrOf m x s).ctxIdOf m = s.ctxIdOf m := fun x => by simp only [St.ctxIdOf, setCurrOf, updCtxId_mods]
  unfold currOf
  rw [setCurrOf, e2, updCtxId_ctx, setCurrOf, updCtxId_ctx, hc, e0]
  simp only [Option.map_some, hid, beq_self_eq_true, if_true]

/-- PERSIST: a direct deregistration while the context loops fails with -EPERM and changes nothing -/
theorem C15_persist_refused (s : St) (m : ModId) (md : Mod) (c : Ctx) (hm : s.mods[m]? = some md) (hc : s.ctx = some c)
    (hma : modAssert s m = none) (hp : md.flags.persist = true) (hl : c.state = .looping) :
    Refuses (modDeregisterP m) s EPERM := by
  simp [Refuses, modDeregisterP, modDeregCore, hma, hm, hc, hp, hl]

/-- publishing on the reserved system-topic prefix is always refused, without effect -/
theorem C15_reserved_topic_refused (s : St) (m : ModId) (t : String) (p : Nat) (af : Bool) (ht : isSystemTopic t = true) :
    ∃ code : Int, code < 0 ∧ Refuses (apiPublish m (some t) p af) s code := by
  cases hma : modAssert s m with
  | some e => exact ⟨e, modAssert_neg s m e hma, guarded_refuses_assert s m e _ _ _ _ hma⟩
  | none =>
    cases hm : s.mods[m]? with
    | none => exact ⟨EINVAL, by decide, by simp [Refuses, apiPublish, runP_guarded, hma, hm]⟩
    | some md =>
      by_cases hd : md.flags.denyPub = true
      · exact guarded_refuses_perm s m md _ _ _ _ hm hd
      · exact ⟨EPERM, by decide, by simp [Refuses, apiPublish, runP_guarded, hma, hm, hd, ht]⟩

example : isSystemTopic "LIBMODULE_CTX_STARTED" = true := by decide +kernel
example : isSystemTopic "ta" = false := by decide +kernel


/-- tie A: the guard prefixes of the entry points this property is about, re-extracted from the source on every run,
are the ones the model transcribes (`Lm.Inst.CoreTie`) -/
theorem C15_guards_in_source :
    Lm.Inst.CoreTie.slice Lm.Generated.CoreGuards.guards ["m_mod_register", "mod_deregister", "m_mod_ps_tell", "m_mod_ps_publish", "m_mod_ps_poisonpill", "m_mod_ps_subscribe", "m_mod_ps_unsubscribe"] = Lm.Inst.CoreTie.slice Lm.Inst.CoreTie.expected ["m_mod_register", "mod_deregister", "m_mod_ps_tell", "m_mod_ps_publish", "m_mod_ps_poisonpill", "m_mod_ps_subscribe", "m_mod_ps_unsubscribe"] := rfl

end Lm.Props.C15
