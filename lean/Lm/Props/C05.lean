import Lm.Struct.Map
import Lm.Struct.MapGen
import Lm.Inv.Map
import Lm.Inv.MapOps
import Lm.Inv.MapGen
import Lm.Inv.MapIter
import Lm.Inv.MapRun
/-!
# C05 — the string-keyed map behaves as a dictionary for all key sets and operation orders

Property theorems only (helper lemmas: `Lm.Inv.Map`, `Lm.Inv.MapOps`, `Lm.Inv.MapIter`, `Lm.Inv.MapRun`; side
conditions on the regenerated fragments: `Lm.Inv.MapGen`).  The model `Lm.Struct.Map` mirrors `Lib/structs/map.c`
after the `fix:` commits; every theorem is for **every** home-slot function (so for every hash
function, every set of colliding keys, every cluster wrapping the end of the table), every table size
the code can reach, and every well-formed map — and `C05_wf_reachable` shows that every operation
sequence only reaches well-formed maps.

The dictionary a map stands for is `content m` (its live entries); `m.length` is what `m_map_len`
returns.
-/
namespace Lm.Props.C05
open Lm.Struct.Map
variable {κ : Type} [DecidableEq κ]

/-! ## Tie A: the fragments regenerated from `map.c` meet the side conditions of all proofs below -/

/-- `MAP_SIZE_DEFAULT`, `MAP_PROBE_LEN`, `MAP_SIZE_MOD`, the load rule and the back-shift decision
as regenerated from the source: probe length = size/2, home slot below the size, one slot stays
free, "move iff the home slot is not in (hole, idx]" for every power-of-two size. -/
theorem C05_fragments_good (bytes : κ → List (BitVec 8)) : (genParams bytes).Good :=
  genParams_good bytes

/-! ## The dictionary view -/

/-- The live entries have pairwise different keys and `m_map_len` is their number. -/
theorem C05_len (P : Params κ) (m : Map κ) (hwf : WF P m) :
    ((content m).map (·.1)).Nodup ∧ m.length = (content m).length :=
  ⟨nodup_keysOf hwf.tbl, hwf.len⟩

/-- `m_map_get` returns the value stored under the key, and `NULL` exactly for keys that are not
live — whatever collides with what, wherever the cluster lies. -/
theorem C05_get (P : Params κ) (hP : P.Good) (m : Map κ) (hwf : WF P m) (k : κ) :
    (∀ v, get P m k = some v ↔ (k, v) ∈ content m) ∧
    (get P m k = none ↔ ∀ v, (k, v) ∉ content m) ∧
    (contains P m k = true ↔ ∃ v, (k, v) ∈ content m) := by
  refine ⟨fun v => ?_, ?_, ?_⟩
  · rw [get_spec hP hwf, has_iff_mem]; rfl
  · rw [get_none_spec hP hwf]; simp only [has_iff_mem]; rfl
  · rw [contains_spec hP hwf]; simp only [has_iff_mem]; rfl

/-- `m_map_put`: a `NULL` value is refused; otherwise a new key is added (`length + 1`, no
destructor), an existing key is replaced only with `ALLOW_UPDATE` (the old value is destroyed once,
unless it is the same pointer) and refused with `-EPERM` (`-1`) without any effect otherwise; it can
fail with `-ENOMEM` (`-12`) only when the allocator fails (`oom`, or a table beyond what `calloc` can
deliver), again without effect on the contents.  The key copy of `KEY_DUP` is allocated once and
released again exactly when no new entry was created.  The map stays well-formed (also across the
growth of the table). -/
theorem C05_put (P : Params κ) (hP : P.Good) (m : Map κ) (hwf : WF P m) (k : κ) (v : Nat) :
    let r := put P m k v
    WF P r.1 ∧ SameFlags m r.1 ∧
    ((v = 0 ∧ r = (m, [], -22)) ∨
     (v ≠ 0 ∧ ∃ evs : List (Ev κ),
        r.2.1 = (if (m.dup || m.autofree) then
                  [Ev.kalloc k] ++ evs ++ (if r.2.2 ≠ 0 ∨ r.1.length = m.length then [Ev.kfree k] else [])
                else evs) ∧
        (-- success
         (r.2.2 = 0 ∧ (∀ e, e ∈ content r.1 ↔ e = (k, v) ∨ (e ∈ content m ∧ e.1 ≠ k)) ∧
            (((∀ w, (k, w) ∉ content m) ∧ r.1.length = m.length + 1 ∧ evs = []) ∨
             (∃ w, (k, w) ∈ content m ∧ m.update = true ∧ r.1.length = m.length ∧
                evs = if m.dtor && w != v then [Ev.dtor w] else []))) ∨
         -- no update allowed
         (r.2.2 = -1 ∧ (∀ e, e ∈ content r.1 ↔ e ∈ content m) ∧ r.1.length = m.length ∧ evs = [] ∧
            m.update = false ∧ ∃ w, (k, w) ∈ content m) ∨
         -- allocation failure
         (r.2.2 = -12 ∧ (∀ e, e ∈ content r.1 ↔ e ∈ content m) ∧ r.1.length = m.length ∧ evs = [] ∧
            (m.oom = true ∨ P.maxSize < 4 * m.size))))) := by
  intro r
  obtain ⟨h1, h2, h3⟩ := put_spec hP hwf k v
  refine ⟨h1, h2, ?_⟩
  rcases h3 with h3 | ⟨hv, r0, hspec, e1, e2, e3⟩
  · left; exact h3
  · right
    refine ⟨hv, r0.2.1, ?_, ?_⟩
    · show (put P m k v).2.1 = _
      rw [e3, e1, e2]
    · show ((put P m k v).2.2 = 0 ∧ _) ∨ ((put P m k v).2.2 = -1 ∧ _) ∨ ((put P m k v).2.2 = -12 ∧ _)
      rw [e1, e2]
      simp only [content, ← has_iff_mem]
      rcases hspec with ⟨a, b, c⟩ | ⟨a, b, c, d, e⟩ | ⟨a, b, c, d⟩
      · left; exact ⟨a, b, c⟩
      · right; left; exact ⟨a, b.1, b.2, c, d, e⟩
      · right; right; exact ⟨a, b.1, b.2, c, d⟩

/-- `m_map_remove` deletes exactly the named entry — every other live entry stays reachable,
including those that the back-shift moves — destroys its value once and releases its key when the
map owns it; for a key that is not live it fails (`-ENOENT`, or `-EINVAL` on an empty map) without
effect. -/
theorem C05_remove (P : Params κ) (hP : P.Good) (m : Map κ) (hwf : WF P m) (k : κ) :
    let r := remove P m k
    WF P r.1 ∧ SameFlags m r.1 ∧
    ((∃ v, (k, v) ∈ content m ∧ r.2.2 = 0 ∧ r.1.length + 1 = m.length ∧ r.1.size = m.size ∧
        (∀ e, e ∈ content r.1 ↔ (e ∈ content m ∧ e.1 ≠ k)) ∧
        r.2.1 = (if m.autofree then [Ev.kfree k] else []) ++ (if m.dtor then [Ev.dtor v] else [])) ∨
     ((∀ v, (k, v) ∉ content m) ∧ r.1 = m ∧ r.2.1 = [] ∧ r.2.2 = if m.length = 0 then -22 else -2)) := by
  intro r
  simp only [content, ← has_iff_mem]
  exact remove_spec hP hwf k

/-- Growth (`hashmap_rehash`) never fails for lack of a slot, doubles the table and keeps exactly
the live entries; it fails only when the allocator does, and then nothing changes. -/
theorem C05_rehash (P : Params κ) (hP : P.Good) (m : Map κ) (hwf : WF P m) :
    (∃ m', rehash P m = (m', 0) ∧ WF P m' ∧ m'.size = 2 * m.size ∧ m'.length = m.length ∧
        (∀ e, e ∈ content m' ↔ e ∈ content m) ∧ SameFlags m m') ∨
    (∃ m', rehash P m = (m', -12) ∧ m'.cells = m.cells ∧ m'.length = m.length ∧
        (m.oom = true ∨ P.maxSize < 2 * m.size)) := by
  rcases rehash_spec hP hwf with ⟨m', h1, h2, h3, h4, h5, _, _⟩ | ⟨m', h1, h2, h3, _, h5⟩
  · left
    refine ⟨m', h1, h2, h3, h4.2, ?_, h5⟩
    simp only [content, ← has_iff_mem]; exact h4.1
  · right; exact ⟨m', h1, h2, h3, h5⟩

/-- A new map is empty and well-formed. -/
theorem C05_new (P : Params κ) (hP : P.Good) (dup autofree update dtor : Bool) :
    WF P (new P dup autofree update dtor) ∧ content (new P dup autofree update dtor) = [] ∧
    (new P dup autofree update dtor).length = 0 := by
  refine ⟨WF_new hP _ _ _ _, ?_, rfl⟩
  have := occ_replicate (κ := κ) P.sizeDefault
  unfold occ at this
  exact List.length_eq_zero_iff.mp this

/-! ## Iteration -/

/-- `m_map_iterate`, with a callback that on every visit either continues or removes the entry it
was called for (in any pattern): fails with `-EINVAL` on an empty map; otherwise returns 0 and the
callback was invoked **exactly once for every entry that was live at the start** (no entry twice, none
skipped — also when a removal back-shifts a cluster that wraps around the end of the table), exactly
the entries the callback removed are gone, and the destructor / key release ran exactly once for each
of them and for nothing else. -/
theorem C05_iterate (P : Params κ) (hP : P.Good) (m : Map κ) (hwf : WF P m)
    (cb : Nat → κ → Nat → CbAct κ) (hcb : ContRm cb) :
    let r := iterate P m cb
    (m.length = 0 ∧ r = (m, [], -22)) ∨
    (m.length ≠ 0 ∧ r.2.2 = 0 ∧ WF P r.1 ∧ SameFlags m r.1 ∧
      ((visitsOf r.2.1).map (·.1)).Nodup ∧
      (∀ e, e ∈ visitsOf r.2.1 ↔ e ∈ content m) ∧
      (∀ e, e ∈ content r.1 ↔ (e ∈ content m ∧ e.1 ∉ (rmList cb 0 (visitsOf r.2.1)).map (·.1))) ∧
      outEvs r.2.1 = (rmList cb 0 (visitsOf r.2.1)).flatMap (remEvs m)) := by
  by_cases h0 : m.length = 0
  · rw [iterate, if_pos h0]; exact Or.inl ⟨h0, rfl⟩
  · rw [iterate, if_neg h0]
    obtain ⟨hok, hwin⟩ := scanOk_start hwf
    have h := iterLoop_spec hP hcb (2 * m.size + 1) 0 hok (by have := hwf.room; omega)
    simp only [content, ← has_iff_mem]
    exact Or.inr ⟨h0, h.rc, h.wf, h.flags, h.nodup, fun e => (h.visits e).trans (hwin e), h.after, h.evs⟩

/-- Iteration with the iterator API (`m_map_itr_new` / `_next` / `_get_key` / `_get_data` /
`_remove`, the loop of `m_itr_foreach`), removing any subset of the visited entries: every entry
that was live at the start is visited exactly once, exactly the removed ones are gone, each of them
released exactly once. -/
theorem C05_iterator (P : Params κ) (hP : P.Good) (m : Map κ) (hwf : WF P m) (dec : Nat → κ → Nat → Bool)
    (fuel : Nat) (hfuel : 2 * m.size < fuel) :
    let r := itrWalk P dec fuel m (itrNew m) 0
    WF P r.1 ∧ SameFlags m r.1 ∧ (r.2.1.map (·.1)).Nodup ∧
    (∀ e, e ∈ r.2.1 ↔ e ∈ content m) ∧
    (∀ e, e ∈ content r.1 ↔ (e ∈ content m ∧ e.1 ∉ (rmListB dec 0 r.2.1).map (·.1))) ∧
    r.2.2 = (rmListB dec 0 r.2.1).flatMap (remEvs m) := by
  intro r
  obtain ⟨p, stop, hall, w⟩ := itrWalk_new hP hwf dec hfuel
  simp only [content, ← has_iff_mem]
  exact ⟨w.wf, w.flags, w.nodup, fun e => (w.visits e).trans (hall e), w.after, w.evs⟩

/-- `m_map_clear` (and with it `m_map_free`) empties the map; every entry that was live is released
exactly once — its value destroyed once, its key released once when the map owns the keys — and
nothing else is. -/
theorem C05_clear (P : Params κ) (hP : P.Good) (m : Map κ) (hwf : WF P m) :
    let r := clear P m
    WF P r.1 ∧ SameFlags m r.1 ∧ r.1.size = m.size ∧ r.1.length = 0 ∧ content r.1 = [] ∧
    ∃ order : List (κ × Nat), r.2 = order.flatMap (remEvs m) ∧ (order.map (·.1)).Nodup ∧
      ∀ e, e ∈ order ↔ e ∈ content m := by
  intro r
  have h := clear_spec hP hwf
  refine ⟨h.wf, h.flags, h.size, h.len, ?_, ?_⟩
  · exact List.length_eq_zero_iff.mp ((occ_eq_zero_iff _).mpr h.empty)
  · simp only [content, ← has_iff_mem]; exact h.evs

/-- `m_map_itr_set_data` stores the new value in the current entry and nothing else (it is a plain
store: the old value is handed back to the caller, no destructor runs); it is refused after
`m_map_itr_remove` and for a `NULL` value. -/
theorem C05_itr_set (P : Params κ) (m : Map κ) (hwf : WF P m) (it : Itr) (v : Nat) :
    let r := itrSet m it v
    WF P r.1 ∧ SameFlags m r.1 ∧ r.1.length = m.length ∧
    ((it.removed = true ∨ v = 0) → r = (m, -22)) ∧
    (it.removed = false → v ≠ 0 → ∀ k w, slot m.cells it.pos = some (k, w) →
      r.2 = 0 ∧ ∀ e, e ∈ content r.1 ↔ e = (k, v) ∨ (e ∈ content m ∧ e.1 ≠ k)) := by
  intro r
  obtain ⟨g1, g2, g3, _, g5, g6⟩ := itrSet_spec hwf it v
  simp only [content, ← has_iff_mem]
  exact ⟨g1, g2, g3, g5, g6⟩

/-! ## Every operation sequence -/

/-- Whatever sequence of put / get / contains / remove / len / clear / iterate (with *any* callback
program: continue, remove the current entry, stop, fail, remove or put another entry) / iterator
new, next, get, key, set, remove / allocation failures is applied to a new map, for any flags: the
map is well-formed after every call (so all theorems above apply to every reachable state), and
the iterator handle of the script, when there is one, is valid for the current table. -/
theorem C05_wf_reachable (P : Params κ) (hP : P.Good) (dup autofree update dtor : Bool) (ops : List (Op κ)) :
    let s := run P { map := new P dup autofree update dtor } ops
    WF P s.map ∧ ∀ it, s.itr = some it → ItrOk P s.map it := by
  intro s
  exact run_ok hP ops ⟨WF_new hP _ _ _ _, nofun⟩

/-- The same for the model exactly as the driver runs it: with the fragments regenerated from
`map.c`, for every key-to-bytes function (every key set). -/
theorem C05_wf_reachable_generated (bytes : κ → List (BitVec 8)) (dup autofree update dtor : Bool)
    (ops : List (Op κ)) :
    WF (genParams bytes) (run (genParams bytes) { map := new (genParams bytes) dup autofree update dtor } ops).map :=
  (C05_wf_reachable (genParams bytes) (genParams_good bytes) dup autofree update dtor ops).1

/-- The ledger of key blocks, for a map that owns its keys (`KEY_DUP` or `KEY_AUTOFREE`), at every
point of every history (any callbacks included): the blocks allocated for a key are the blocks
released plus one exactly when the key is live — a private copy is created once per stored entry,
released with it, never twice, and a copy that was not stored is released at once. -/
theorem C05_keys_balanced (P : Params κ) (hP : P.Good) (dup autofree update dtor : Bool)
    (hown : (autofree || dup) = true) (ops : List (Op κ)) (k : κ) :
    let s := run P { map := new P dup autofree update dtor } ops
    (s.log.count (Ev.kalloc k) : Int) =
      s.log.count (Ev.kfree k) + (if k ∈ (content s.map).map (·.1) then 1 else 0) := by
  intro s
  have h0 : StOk P ({ map := new P dup autofree update dtor } : St κ) :=
    ⟨WF_new hP _ _ _ _, nofun⟩
  have := run_delta hP k ops h0 hown
  have hl0 : live (new P dup autofree update dtor) k = 0 :=
    live_of_absent fun v => not_has_replicate _ _
  simp only [kdelta, List.count_nil, hl0] at this
  -- `live s.map k` unfolds to the `if` of the statement
  show ((run P _ ops).log.count (Ev.kalloc k) : Int) = (run P _ ops).log.count (Ev.kfree k) + live (run P _ ops).map k
  omega

/-- No key block is leaked: once the map has been cleared (`m_map_clear`, `m_map_free`) every key
block that was ever allocated has been released. -/
theorem C05_no_key_leak (P : Params κ) (hP : P.Good) (dup autofree update dtor : Bool)
    (hown : (autofree || dup) = true) (ops : List (Op κ)) (k : κ) :
    let s := run P { map := new P dup autofree update dtor } (ops ++ [Op.clear])
    s.log.count (Ev.kalloc k) = s.log.count (Ev.kfree k) := by
  intro s
  have h := C05_keys_balanced P hP dup autofree update dtor hown (ops ++ [Op.clear]) k
  have hwf := (C05_wf_reachable P hP dup autofree update dtor ops).1
  have hc : content s.map = [] := by
    show content (run P _ (ops ++ [Op.clear])).map = []
    unfold run
    rw [List.foldl_append]
    exact (C05_clear P hP _ hwf).2.2.2.2.1
  change ((s.log.count (Ev.kalloc k) : Int) =
    s.log.count (Ev.kfree k) + (if k ∈ (content s.map).map (·.1) then 1 else 0)) at h
  rw [hc] at h
  simp only [List.map_nil, List.not_mem_nil, if_false] at h
  omega

/-! ## Non-vacuity: a small instance with colliding keys and a cluster wrapping the table end -/

/-- table of 8 slots, identity hash -/
def demoP : Params Nat where
  home n k := k % n
  probeLen n := n / 2
  minSize len := len + len / 3
  shift n hole idx home := decide ((idx + n - hole) % n ≤ (idx + n - home) % n)
  sizeDefault := 8
  maxSize := 64

theorem C05_demo_params_good : demoP.Good := by
  constructor
  · intro n k h0 _; exact Nat.mod_lt _ h0
  · intro n _; rfl
  · intro n len h1 _ _ h4
    simp only [demoP] at h1 h4
    omega
  · intro n hole idx home _ _ _ _ _; rfl
  · exact ⟨3, rfl⟩
  · decide
  · decide

/-- keys 7, 15, 23 all home on the last slot (cluster 7, 0, 1); 0 homes on slot 0 and is pushed to 2 -/
def demoOps : List (Op Nat) := [.put 7 1, .put 15 2, .put 23 3, .put 0 4, .del 7, .put 15 5]

def demoSt : St Nat := run demoP { map := new demoP true true true true } demoOps

example : demoSt.map.cells = [some (23, 3), some (0, 4), none, none, none, none, none, some (15, 5)] := by decide
example : (get demoP demoSt.map 15, get demoP demoSt.map 23, get demoP demoSt.map 0, get demoP demoSt.map 7) =
    (some 5, some 3, some 4, none) := by decide
example : demoSt.log = [.kalloc 7, .kalloc 15, .kalloc 23, .kalloc 0, .kfree 7, .dtor 1,
    .kalloc 15, .dtor 2, .kfree 15] := by decide
/-- iteration with removal of the first visited entry (the head of the wrapped cluster): 3 visits, each entry once -/
example : visitsOf (iterate demoP demoSt.map (fun i _ _ => if i = 0 then .rm else .cont)).2.1 =
    [(15, 5), (23, 3), (0, 4)] := by decide
example : ContRm (fun (i : Nat) (_ : Nat) (_ : Nat) => if i = 0 then CbAct.rm else CbAct.cont) := by
  intro i k v; by_cases h : i = 0 <;> simp [h]
/-- D-05b shape at size 8: keys at homes 0..4 each at home, remove the home-0 key: the key with home 4
(distance exactly size/2) must stay where it is -/
example : (remove demoP (run demoP { map := new demoP false false false false }
    [.put 8 1, .put 1 2, .put 2 3, .put 3 4, .put 4 5]).map 8).1.cells =
    [none, some (1, 2), some (2, 3), some (3, 4), some (4, 5), none, none, none] := by decide
/-- growth: the seventh key doubles the table (8 <= 6 + 2) and every entry is still found -/
example : let m := (run demoP { map := new demoP false false false false }
      [.put 7 1, .put 15 2, .put 23 3, .put 31 4, .put 6 5, .put 14 6, .put 22 7]).map
    (m.size, m.length, get demoP m 31, get demoP m 22, get demoP m 7) = (16, 7, some 4, some 7, some 1) := by decide
/-- clear releases every entry once -/
example : (clear demoP demoSt.map).2 = [.kfree 15, .dtor 5, .kfree 23, .dtor 3, .kfree 0, .dtor 4] := by decide

end Lm.Props.C05

