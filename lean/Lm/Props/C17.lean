import Lm.Inst.CoreTie
import Lm.Inv.CoreAbs
import Lm.Inv.CoreGuards
/-! # C17 — become/unbecome form a handler stack that is reset when the module stops -/
namespace Lm.Props.C17
open Lm.Core

/-- every handler invocation goes to the most recently installed handler that has not been removed, and to
the registration-time handler (#0) when the stack is empty: `call_pubsub_cb` on a non-empty event queue
suspends at exactly that handler, with exactly those events -/
theorem C17_invocation_uses_top_of_stack (s : St) (m : ModId) (md : Mod) (evts : List Evt) (hm : s.mods[m]? = some md)
    (he : evts ≠ []) :
    ∃ k, runP (callPubsubCb m evts) s = (setCurrOf m (some m) s, .inr (.evt (md.recvs.headD 0), m, evts, k)) := by
  unfold callPubsubCb
  have : evts.isEmpty = false := List.isEmpty_eq_false_iff.mpr he
  simp only [this, Bool.false_eq_true, if_false, runP_getSt_bind, runP_modify_bind, hm]
  exact ⟨_, rfl⟩

/-- become pushes the new handler (when the guards pass: RUNNING, own context, a token) -/
theorem C17_become_pushes (s s' : St) (m : ModId) (md : Mod) (h : Nat) (hm : s.mods[m]? = some md) (hma : modAssert s m = none)
    (hr : md.state = .running) (ht : consumeToken s m = some s') :
    runP (apiBecome m h) s = (s'.updMod m (fun md => { md with recvs := h :: md.recvs }), .inl 0) := by
  unfold apiBecome
  rw [guarded_pass_tok s s' m md _ _ _ hm hma rfl (by simp [hr]) ht]
  rfl

/-- unbecome removes exactly the top handler … -/
theorem C17_unbecome_pops (s s' : St) (m : ModId) (md md' : Mod) (x : Nat) (rest : List Nat) (hm : s.mods[m]? = some md)
    (hma : modAssert s m = none) (hr : md.state = .running) (ht : consumeToken s m = some s')
    (hm' : s'.mods[m]? = some md') (hst : md'.recvs = x :: rest) :
    runP (apiUnbecome m) s = (s'.updMod m (fun md => { md with recvs := rest }), .inl 0) := by
  unfold apiUnbecome
  rw [guarded_pass_tok s s' m md _ _ _ hm hma rfl (by simp [hr]) ht]
  simp [hm', hst]

/-- … and fails with -EINVAL when the stack is empty (the token is consumed, nothing else changes) -/
theorem C17_unbecome_empty (s s' : St) (m : ModId) (md md' : Mod) (hm : s.mods[m]? = some md)
    (hma : modAssert s m = none) (hr : md.state = .running) (ht : consumeToken s m = some s')
    (hm' : s'.mods[m]? = some md') (hst : md'.recvs = []) :
    runP (apiUnbecome m) s = (s', .inl EINVAL) := by
  unfold apiUnbecome
  rw [guarded_pass_tok s s' m md _ _ _ hm hma rfl (by simp [hr]) ht]
  simp [hm', hst]

/-- both are refused (negative code, nothing changes) unless the module is RUNNING -/
theorem C17_refused_unless_running (s : St) (m : ModId) (md : Mod) (hm : s.mods[m]? = some md) (hs : md.state ≠ .running) :
    (∀ h, ∃ code : Int, code < 0 ∧ Refuses (apiBecome m h) s code) ∧ (∃ code : Int, code < 0 ∧ Refuses (apiUnbecome m) s code) :=
  ⟨fun _ => guarded_refuses_state s m md _ _ _ _ hm (by simp [hs]), guarded_refuses_state s m md _ _ _ _ hm (by simp [hs])⟩

/-- the stack is emptied when the module stops (`reset_module`), so a restarted module starts with its original handler -/
theorem C17_stop_empties_stack (s : St) (m : ModId) (md : Mod) (hm : s.mods[m]? = some md) :
    ∃ md', (resetModule s m).mods[m]? = some md' ∧ md'.recvs = [] := by
  -- a module object is there afterwards, since `reset_module` keeps the signatures; it was written by `Mod.reset`
  have hs : (resetModule s m).sigs[m]? = some md.sig := by rw [resetModule_sigs, sigs_getElem?, hm]; rfl
  obtain ⟨md', h, _⟩ := mod_of_sig hs
  refine ⟨md', h, ?_⟩
  unfold resetModule at h
  simp only [hm, updMod_getElem?_self] at h
  obtain ⟨x, _, rfl⟩ := Option.map_eq_some_iff.mp h
  rfl

/-- a change made inside a handler takes effect from the next invocation: the handler of an invocation is fixed
when the invocation starts (it is part of the suspension record, see `C17_invocation_uses_top_of_stack`) -/
theorem C17_handler_fixed_at_invocation (s : St) (m : ModId) (md : Mod) (evts : List Evt) (hm : s.mods[m]? = some md)
    (he : evts ≠ []) (h' : Nat) :
    ∃ k, runP (callPubsubCb m evts) s = (setCurrOf m (some m) s, .inr (.evt (md.recvs.headD 0), m, evts, k)) ∧
      -- and it does not depend on what `become` will push later
      md.recvs.headD 0 = ((h' :: md.recvs).tail).headD 0 := by
  obtain ⟨k, hk⟩ := C17_invocation_uses_top_of_stack s m md evts hm he
  exact ⟨k, hk, rfl⟩

def demo : List Op :=
  [.ctxReg false, .reg "h0" "A" 5 {} {}, .start 0, .become 0 3, .become 0 5, .tell 0 0 1 false, .dispatch, .dispatch, .unbecome 0, .ret true,
   .tell 0 0 2 false, .dispatch, .ret true, .stop 0, .start 0, .tell 0 0 3 false, .dispatch]

def cfg0 : Cfg := { st := { batches := [[.ps "h0"], [.ps "h0"], [.ps "h0"]] } }

/-- handlers used: #5 (top), then #3 after the unbecome made inside the first invocation, then #0 after stop/start -/
example : ((run cfg0 demo).st.out.filterMap fun o => match o with | .invoke cb _ _ => some cb | _ => none)
    = [.evt 5, .evt 3, .evt 0] := by decide +kernel


/-- tie A: the guard prefixes of the entry points this property is about, re-extracted from the source on every run,
are the ones the model transcribes (`Lm.Inst.CoreTie`) -/
theorem C17_guards_in_source :
    Lm.Inst.CoreTie.slice Lm.Generated.CoreGuards.guards ["m_mod_become", "m_mod_unbecome"] = Lm.Inst.CoreTie.slice Lm.Inst.CoreTie.expected ["m_mod_become", "m_mod_unbecome"] := rfl

end Lm.Props.C17
