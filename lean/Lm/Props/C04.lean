import Lm.Inv.CoreOut
import Lm.Inv.CoreSafe
/-! # C04 — Memory: no use after free, no double free, no leak for any call sequence

Partial.  Memory safety of the C code is a property of the runtime, not of the model: it is sampled by running every
correspondence script of every core property under ASan/UBSan (a sanitizer report is a `FAULT` line, which no model
produces).  What the model carries are the ownership rules whose violation produced the defects that were found:
a payload handed over with AUTOFREE is freed with its last reference and never again; a module object is never
forgotten while a handle may still name it (ZOMBIE is final and the handle keeps resolving). -/
namespace Lm.Props.C04
open Lm.Core

/-- an AUTOFREE payload is freed exactly when its last reference is dropped -/
theorem C04_free_iff_last_reference (s : St) (i : HolderId) (n : Nat) (h : s.holders[i]? = some n) :
    (holderUnref s (some i)).out = if n = 1 then s.out ++ [.free (s.holderPayload[i]?.getD 0)] else s.out := by
  simp only [holderUnref, h]
  split <;> simp [St.emit]

/-- once its count is zero nothing frees it a second time, and the count stays zero -/
theorem C04_never_freed_twice (s : St) (i : HolderId) (h : s.holders[i]? = some 0) :
    (holderUnref s (some i)).out = s.out ∧ (holderUnref s (some i)).holders[i]? = some 0 := by
  simp only [holderUnref, h]
  simp [(List.getElem?_eq_some_iff.mp h).1]

/-- a temporary reference on a live payload (taken around a dispatch) is neutral: it frees nothing and restores the count -/
theorem C04_temporary_reference_neutral (s : St) (i : HolderId) (n : Nat) (h : s.holders[i]? = some n) (hn : 0 < n) :
    (holderUnref (holderRef s (some i)) (some i)).out = s.out ∧
    (holderUnref (holderRef s (some i)) (some i)).holders = s.holders := by
  obtain ⟨hlt, hget⟩ := List.getElem?_eq_some_iff.mp h
  have h1 : holderRef s (some i) = { s with holders := s.holders.set i (n + 1) } := by simp [holderRef, h]
  have h2 : ({ s with holders := s.holders.set i (n + 1) } : St).holders[i]? = some (n + 1) := by simp [hlt]
  have hne : ¬ (n + 1 = 1) := by omega
  rw [h1]
  simp only [holderUnref, h2, hne, if_false, Nat.add_sub_cancel, List.set_set, true_and]
  rw [← hget, List.set_getElem_self]

/-- messages that carry no AUTOFREE payload never cause a free -/
theorem C04_plain_message_frees_nothing (s : St) (msg : Msg) (h : msg.holder = none) : destroyMsg s msg = s := by
  simp [destroyMsg, holderUnref, h]

/-- the stop, reset and removal paths free payloads only through the reference count (never directly):
everything they append to the trace is a payload free, a pipe end or an AUTOCLOSE descriptor -/
theorem C04_teardown_paths_only_unref (s : St) (m : ModId) :
    (∃ l, (manageSrcsRm s m true).out = s.out ++ l ∧ ∀ o ∈ l, Allowed s o) ∧
    (∃ l, (resetModule s m).out = s.out ++ l ∧ ∀ o ∈ l, Allowed s o) ∧
    (∃ l, (flushDestroy s m).out = s.out ++ l ∧ ∀ o ∈ l, Allowed s o) :=
  ⟨(emits_manageSrcsRm m true s).2, (emits_resetModule m s).2, (emits_flushDestroy m s).2⟩

/-- a module object is never lost while handles may name it: in every reachable configuration and for every further
history, a module that existed still exists, keeps its name, and if it was a ZOMBIE it still is one -/
theorem C04_module_objects_persist (ops : List Op) :
    CfgOK Inv Mono (run {} ops) := reach_inv ops

end Lm.Props.C04
