import Lm.Inst.CoreTie
import Lm.Inv.CoreAbs
import Lm.Inv.CoreGuards
/-! # C09 — Per-module source registry behaves as a keyed set for every source kind

The registry of a module is `md.srcs` (descriptors, timers, signals, …) and `md.subs` (topic subscriptions);
`findSrc` is the lookup by identifying value (kind, key, and — for library-internal timers — their role). -/
namespace Lm.Props.C09
open Lm.Core

/-- ids stored in a module's registry refer to existing source objects -/
def WfSrcs (s : St) (m : ModId) : Prop := ∀ md, s.mods[m]? = some md → ∀ i ∈ md.srcs, i < s.srcs.length

/-- registering a key that is already present fails with -EEXIST and leaves the registry untouched -/
theorem C09_present_key_refused (s : St) (m : ModId) (x : Src) (i : SrcId) (h : findSrc s m x.kind x.key x.role = some i) :
    (addSrc s m x).2 = EEXIST ∧ (addSrc s m x).1.mods = s.mods ∧ (addSrc s m x).1.srcs = s.srcs := by
  unfold addSrc
  simp only [h]
  split <;> simp [St.emit]

/-- registering a new key succeeds: a new source object carrying the key is created (polled at once iff the
module is RUNNING) and added to the module's registry -/
theorem C09_new_key_registered (s : St) (m : ModId) (md : Mod) (x : Src) (hm : s.mods[m]? = some md)
    (h : findSrc s m x.kind x.key x.role = none)
    (hk : ¬ (x.kind == .fd && stateIs s m .running && s.srcs.any (fun y => y.kind == .fd && y.key == x.key && y.polled && y.registered)) = true)
    (hp : ¬ (x.kind == .fd && stateIs s m .running && unpollable x.key) = true) :
    (addSrc s m x).2 = 0 ∧
    (addSrc s m x).1.srcs = s.srcs ++ [{ x with polled := stateIs s m .running, registered := true }] ∧
    (addSrc s m x).1.mods[m]? = some { md with srcs := md.srcs ++ [s.srcs.length] } := by
  unfold addSrc
  simp only [h, hk, hp, Bool.false_eq_true, if_false]
  exact ⟨trivial, by simp, updMod_self _ hm⟩

/-- a descriptor the poll set refuses (a regular file) offered to a RUNNING module: the kernel's error comes back and the
registration leaves no trace — neither in the registry nor in the source table; a duplicate made on request is closed again -/
theorem C09_unpollable_leaves_no_trace (s : St) (m : ModId) (x : Src)
    (h : findSrc s m x.kind x.key x.role = none)
    (hk : ¬ (x.kind == .fd && stateIs s m .running && s.srcs.any (fun y => y.kind == .fd && y.key == x.key && y.polled && y.registered)) = true)
    (hp : (x.kind == .fd && stateIs s m .running && unpollable x.key) = true) :
    (addSrc s m x).2 = EPERM ∧ (addSrc s m x).1.mods = s.mods ∧ (addSrc s m x).1.srcs = s.srcs ∧
    (addSrc s m x).1.out = if x.dup then s.out ++ [.close (.dup x.key)] else s.out := by
  unfold addSrc
  simp only [h, hk, hp, Bool.false_eq_true, if_false, if_true]
  split <;> simp [St.emit]

/-- the lookup finds a registered source by its identifying value, wherever it sits in the registry -/
theorem C09_lookup_finds_key (s : St) (m : ModId) (md : Mod) (i : SrcId) (x : Src) (hm : s.mods[m]? = some md)
    (hi : i ∈ md.srcs) (hx : s.srcs[i]? = some x) (hr : x.registered = true) :
    (findSrc s m x.kind x.key x.role).isSome = true := by
  unfold findSrc
  simp only [hm]
  rw [List.find?_isSome]
  exact ⟨i, hi, by simp [hx, hr]⟩

/-- removing a source takes exactly that one out of the module's registry -/
theorem C09_remove_takes_exactly_that_one (s : St) (m : ModId) (md : Mod) (i : SrcId) (hm : s.mods[m]? = some md) :
    ∃ md', (removeSrc s m i).mods[m]? = some md' ∧ md'.srcs = md.srcs.filter (· != i) ∧ md'.subs = md.subs.filter (· != i) := by
  have hd : ∀ st : St, (destroySrc st i).mods = st.mods := by
    intro st
    unfold destroySrc
    split
    · split <;> simp
    · rfl
  unfold removeSrc
  rw [hd]
  exact ⟨_, updMod_self _ hm, rfl, rfl⟩

/-- task sources cannot be deregistered; bad parameters are rejected before anything else, without effect -/
theorem C09_task_and_bad_params (s : St) (m : ModId) (key : Nat) (k : SrcKind) (x : Src) (pb : Nat) :
    Refuses (apiDeregSrc m true .task key) s EPERM ∧ Refuses (apiDeregSrc m false k key) s EINVAL ∧
    Refuses (apiRegSrc m false x pb) s EINVAL := by
  refine ⟨?_, ?_, ?_⟩ <;> simp [Refuses, apiDeregSrc, apiRegSrc]

/-- deregistering an absent key fails (-EINVAL when the module has no source of that kind, -ENOENT otherwise) without effect -/
theorem C09_absent_key_refused (s s' : St) (m : ModId) (md md' : Mod) (k : SrcKind) (key : Nat) (hk : k ≠ .task)
    (hm : s.mods[m]? = some md) (hma : modAssert s m = none) (ht : consumeToken s m = some s')
    (hm' : s'.mods[m]? = some md') (ha : findSrc s' m k key .user = none) :
    ∃ code : Int, code < 0 ∧ runP (apiDeregSrc m true k key) s = (s', .inl code) := by
  have hk' : (k == SrcKind.task) = false := by simpa using hk
  unfold apiDeregSrc
  simp only [Bool.not_true, Bool.false_eq_true, if_false, hk']
  rw [guarded_pass_tok s s' m md noDeny none _ hm hma rfl rfl ht]
  simp only [runP_getSt_bind, hm', ha]
  split
  · exact ⟨EINVAL, by decide, rfl⟩
  · exact ⟨ENOENT, by decide, rfl⟩

/-- all sources are dropped when the module is stopped … -/
theorem C09_stop_drops_all (md : Mod) : md.reset.subs = [] := rfl

/-- … while pause keeps every source registered (they only leave the poll set) -/
theorem C09_pause_keeps_sources (s : St) (m : ModId) (md : Mod) (hm : s.mods[m]? = some md) :
    ∃ md', (manageSrcsRm s m false).mods[m]? = some md' ∧ md'.srcs = md.srcs ∧ md'.subs = md.subs := by
  unfold manageSrcsRm
  simp only [hm, Bool.false_eq_true, if_false]
  have : ∀ (l : List SrcId) (st : St), (l.foldl (fun s i => s.updSrc i fun x => { x with polled := false }) st).mods = st.mods :=
    fun l st => List.foldlRecOn (motive := fun t => t.mods = st.mods) l _ rfl fun t ht i _ => (updSrc_mods t i _).trans ht
  rw [this]
  exact ⟨_, updMod_self _ hm, rfl, rfl⟩

/-- the reported count is the number of registered, non-internal sources and subscriptions -/
theorem C09_count (s : St) (m : ModId) (md : Mod) (hm : s.mods[m]? = some md) (hma : modAssert s m = none) :
    runP (apiSrcLen m) s = (s, .inl (userCount s md : Int)) := by
  unfold apiSrcLen
  rw [guarded_pass_notok s m md noDeny none _ hm hma rfl rfl]
  simp only [runP_getSt_bind, hm, runP_pure]

def demo : List Op :=
  [.ctxReg false, .reg "h0" "A" 5 {} {}, .regSrc 0 true { kind := .fd, owner := 0, key := 3, prio := .high } 0,
   .regSrc 0 true { kind := .fd, owner := 0, key := 3, prio := .high } 0, .regSrc 0 true { kind := .tmr, owner := 0, key := 1000 } 0,
   .srcLen 0, .deregSrc 0 true .fd 3, .deregSrc 0 true .fd 3, .srcLen 0]

example : ((run {} demo).st.out.filterMap fun o => match o with | .ret c => some c | _ => none) = [0, 0, 0, -17, 0, 2, 0, -22, 1] := by
  decide +kernel


/-- tie A: the guard prefixes of the entry points this property is about, re-extracted from the source on every run,
are the ones the model transcribes (`Lm.Inst.CoreTie`) -/
theorem C09_guards_in_source :
    Lm.Inst.CoreTie.slice Lm.Generated.CoreGuards.guards ["register_mod_src", "deregister_mod_src", "m_mod_src_len", "m_mod_ps_subscribe", "m_mod_ps_unsubscribe", "m_mod_src_register_fd", "m_mod_src_deregister_fd", "m_mod_src_register_tmr", "m_mod_src_deregister_tmr", "m_mod_src_register_sgn", "m_mod_src_deregister_sgn", "m_mod_src_register_path", "m_mod_src_deregister_path", "m_mod_src_register_pid", "m_mod_src_deregister_pid", "m_mod_src_register_task", "m_mod_src_deregister_task", "m_mod_src_register_thresh", "m_mod_src_deregister_thresh"] = Lm.Inst.CoreTie.slice Lm.Inst.CoreTie.expected ["register_mod_src", "deregister_mod_src", "m_mod_src_len", "m_mod_ps_subscribe", "m_mod_ps_unsubscribe", "m_mod_src_register_fd", "m_mod_src_deregister_fd", "m_mod_src_register_tmr", "m_mod_src_deregister_tmr", "m_mod_src_register_sgn", "m_mod_src_deregister_sgn", "m_mod_src_register_path", "m_mod_src_deregister_path", "m_mod_src_register_pid", "m_mod_src_deregister_pid", "m_mod_src_register_task", "m_mod_src_deregister_task", "m_mod_src_register_thresh", "m_mod_src_deregister_thresh"] := rfl

end Lm.Props.C09
