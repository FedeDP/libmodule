import Lm.Inst.CoreTie
import Lm.Inv.CoreSafe
import Lm.Inv.CoreGuards
/-! # C07 — Context lifecycle: one per thread, teardown deregisters every module -/
namespace Lm.Props.C07
open Lm.Core

/-- each thread has at most one context: a second registration fails with -EEXIST and changes nothing -/
theorem C07_one_context_per_thread (s : St) (c : Ctx) (p : Bool) (h : s.ctx = some c) : Refuses (apiCtxRegister p) s EEXIST := by
  simp [Refuses, apiCtxRegister, h]

/-- with no context on the thread every context call fails with -EPIPE and every module operation with a
negative code, and nothing changes -/
theorem C07_no_context_no_effect (s : St) (h : s.ctx = none) :
    (Refuses ctxDeregisterP s EPIPE ∧ Refuses apiFinalize s EPIPE ∧ Refuses apiDispatch s EPIPE ∧ Refuses apiLoop s EPIPE ∧
     (∀ c, Refuses (apiQuit c) s EPIPE) ∧ Refuses apiCtxLen s EPIPE ∧ (∀ n, Refuses (apiSetTick n) s EPIPE) ∧
     (∀ n sl f hk, n ≠ "" → Refuses (apiRegister n sl f hk) s EPIPE)) ∧
    (∀ (m : ModId) deny mask tok body, ∃ code : Int, code < 0 ∧ Refuses (guarded m deny mask tok body) s code) ∧
    (∀ m, ∃ code : Int, code < 0 ∧ Refuses (apiStart m) s code) ∧
    (∀ m, ∃ code : Int, code < 0 ∧ Refuses (modDeregisterP m) s code) := by
  have hm : mctx s = none := by simp [mctx, h]
  have hma : ∀ m, ∃ e, modAssert s m = some e := by
    intro m
    unfold modAssert
    cases s.mods[m]? with
    | none => exact ⟨_, rfl⟩
    | some md => simp only [hm]; split <;> exact ⟨_, rfl⟩
  refine ⟨ctx_calls_refused s hm, fun m deny mask tok body => ?_, fun m => ?_, fun m => ?_⟩ <;> obtain ⟨e, he⟩ := hma m
  · exact ⟨e, modAssert_neg s m e he, guarded_refuses_assert s m e _ _ _ _ he⟩
  · exact ⟨e, modAssert_neg s m e he, start_refuses_assert s m e he⟩
  · exact ⟨e, modAssert_neg s m e he, dereg_refuses_assert s m e _ he⟩

/-- a looping context refuses to be deregistered -/
theorem C07_looping_context_refuses (s : St) (c : Ctx) (h : mctx s = some c) (hl : c.state = .looping) :
    Refuses ctxDeregisterP s EINVAL := by
  simp [Refuses, ctxDeregisterP, h, hl]

/-- after a context has been finalised no further module can be registered in it -/
theorem C07_finalized_refuses_registration (s : St) (c : Ctx) (n : String) (sl f hk) (hn : n ≠ "")
    (h : mctx s = some c) (hf : c.finalized = true) : Refuses (apiRegister n sl f hk) s EPERM := by
  simp [Refuses, apiRegister, String.isEmpty_eq_false_iff.mpr hn, h, hf]

/-- after it is released the thread can register a fresh context (a new object: new identity, no module, counter 0) -/
theorem C07_fresh_context_after_release (s : St) (p : Bool) (h : s.ctx = none) :
    runP (apiCtxRegister p) s = ({ s with ctx := some { persist := p, id := s.nextCtx }, nextCtx := s.nextCtx + 1 }, .inl 0) := by
  simp [apiCtxRegister, h]

/-- teardown releases the context: when `m_ctx_deregister` goes through (idle, not already being torn down) the
thread has no context afterwards — for every behaviour of the stop hooks it runs -/
theorem C07_deregister_releases (s : St) (c : Ctx) (h : mctx s = some c) (hi : c.state = .idle) (hd : c.destroying = false) :
    wp (fun _ => True) ctxDeregisterP (fun code s' => code = 0 ∧ s'.ctx = none) s := by
  have triv : ∀ {α} (p : Prog α) (st : St), wp (fun _ => True) p (fun _ _ => True) st := by
    intro α p
    induction p with
    | pure a => intro st; trivial
    | get k ih => intro st; exact ih st st
    | set s' p ih => intro st; exact ih s'
    | call cb m e k ih => intro st; exact ⟨trivial, fun b s' _ => ih b s'⟩
  unfold ctxDeregisterP
  simp only [wp_bind', wp_getSt, h, hi, hd]
  simp only [bne_self_eq_false, Bool.false_eq_true, if_false, wp_bind', wp_modify]
  refine wp_mono _ _ _ _ _ (fun _ s' _ => ?_) (triv _ _)
  simp

/-- the invariants of C01 survive context teardown and re-registration: a fresh context starts with counter 0
and no RUNNING module counted against it (`reach_inv` for histories containing `ctx_dereg`/`ctx_reg`) -/
theorem C07_counter_across_contexts (ops : List Op) (c : Ctx) (h : (run {} ops).st.ctx = some c) :
    c.running = runCount (run {} ops).st.sigs c.id := (reach_inv ops).1.run c h

def demo : List Op :=
  [.ctxReg false, .ctxReg false, .reg "h0" "A" 5 {} { stop := true }, .start 0, .ctxDereg, .ret true, .ctxLen, .ctxReg true]

example : ((run {} demo).st.mods.map (·.state)) = [.zombie] := by decide +kernel
example : ((run {} demo).st.ctx.map (·.id)) = some 1 := by decide +kernel
example : ((run {} (demo.take 7)).st.ctx.isNone) = true := by decide +kernel


/-- tie A: the guard prefixes of the entry points this property is about, re-extracted from the source on every run,
are the ones the model transcribes (`Lm.Inst.CoreTie`) -/
theorem C07_guards_in_source :
    Lm.Inst.CoreTie.slice Lm.Generated.CoreGuards.guards ["m_ctx_register", "m_ctx_deregister", "m_ctx_loop", "m_ctx_dispatch", "m_ctx_quit", "m_ctx_finalize", "m_ctx_len", "m_mod_register"] = Lm.Inst.CoreTie.slice Lm.Inst.CoreTie.expected ["m_ctx_register", "m_ctx_deregister", "m_ctx_loop", "m_ctx_dispatch", "m_ctx_quit", "m_ctx_finalize", "m_ctx_len", "m_mod_register"] := rfl

end Lm.Props.C07
