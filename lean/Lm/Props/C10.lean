import Lm.Inst.Mem
import Lm.Inv.Mem
/-!
# C10 — Ref-counted blocks: alive while referenced, destroyed exactly once

Property theorems only (helper lemmas live in `Lm.Inv.Mem`).  The layout theorems are about the
definitions regenerated from `Lib/mem/mem.c` on every run (`Lm.Generated.Mem`, evaluated in
`Lm.Inst.Mem`); the machine theorems are about `Lm.Mem`, which the correspondence check ties to the
compiled library.
-/
namespace Lm.Props.C10
open Lm.Mem Lm.Generated.Mem Lm.Inst.Mem

/-! ## Layout of a block (every requested size) -/

/-- The user pointer is aligned for any object type, whatever the size: its offset from the
(max-aligned) allocation is a multiple of `alignof(max_align_t)`. -/
theorem C10_aligned (size : BitVec 64) : (dataOff size).toNat % maxAlign = 0 := by
  rw [dataOff_eq]; decide

/-- The byte holding the alignment shift lies after the header and right before the user data, and
`get_header` reads it back from exactly that place. -/
theorem C10_shift_byte (size : BitVec 64) :
    hdrSize ≤ (shiftOff size).toNat ∧ (shiftOff size).toNat + 1 = (dataOff size).toNat ∧
    dataOff size + hdrShiftReadOff = shiftOff size := by
  rw [dataOff_eq, shiftOff_eq]; decide

/-- `get_header` maps the user pointer back to the start of the allocation. -/
theorem C10_header_roundtrip (size : BitVec 64) : dataOff size + headerOff (shiftVal size) = 0#64 := by
  rw [dataOff_eq, shiftVal_eq]; decide

/-- The user data fits in the allocation: `dataOff + size ≤ allocSize` whenever the total does not
overflow `size_t` (requests that large are refused by the allocator). -/
theorem C10_fits (size : BitVec 64) (h : size.toNat + 64 < 2 ^ 64) :
    (dataOff size).toNat + size.toNat ≤ (allocSize size).toNat := by
  rw [dataOff_eq, allocSize_eq, BitVec.toNat_add, BitVec.toNat_ofNat]
  omega

/-- A new block starts with one reference and records the requested size. -/
theorem C10_initial (size : BitVec 64) : refsInit size = 1#64 ∧ sizeStored size = size ∧
    (refsOff size).toNat = offRefs ∧ (sizeOff size).toNat = offSize := by
  simp only [refsInit, sizeStored, refsOff, sizeOff, offRefs, offSize]; decide

/-! ## The reference-count machine (every history respecting the ownership precondition) -/

/-- No history that only passes handles the caller holds ever touches a released block (and the
nesting of destructors never exceeds the bound used by the model). -/
theorem C10_no_use_after_free (ops : List Op) (h : okRun {} ops = true) : (run {} ops).fault = false :=
  (run_good ops {} h good_init).nofault

/-- A block is alive exactly while somebody references it, and its counter is exactly the number
of references held by the caller plus those held by live destructors. -/
theorem C10_alive_iff_referenced (ops : List Op) (h : okRun {} ops = true) (i : Nat) (b : Block)
    (hb : (run {} ops).heap[i]? = some b) :
    (b.live = true ↔ 1 ≤ b.user + owners (run {} ops) i) ∧
    (b.live = true → b.refs = b.user + owners (run {} ops) i) := by
  have g := run_good ops {} h good_init
  refine ⟨⟨fun hl => ?_, fun hpos => ?_⟩, fun hl => by simpa using (g.bal.refs i b hb hl).1⟩
  · have := g.bal.refs i b hb hl
    simp at this; omega
  · cases hl : b.live with
    | true => rfl
    | false =>
      -- a dead block has no caller reference, so a live owner would have to point at it
      have ho : 1 ≤ owners (run {} ops) i := by have := g.bal.dead i b hb hl; omega
      obtain ⟨k, c, hk, hcl, hc⟩ := owners_pos_iff.mp ho
      obtain ⟨_, c', hc', hl'⟩ := g.bal.child k c i hk hcl hc
      rw [hb] at hc'; cases hc'; rw [hl] at hl'; cases hl'

/-- The destructor runs exactly once per destroyed block that has one (never for a live block or a
block without destructor), the memory is released exactly once, exactly for dead blocks, and the
destructor of a block never runs after its release. -/
theorem C10_destroyed_exactly_once (ops : List Op) (h : okRun {} ops = true) (i : Nat) :
    let s := run {} ops
    s.log.count (Ev.free i) = (match s.heap[i]? with | some b => if b.live then 0 else 1 | none => 0) ∧
    s.log.count (Ev.dtor i) = (match s.heap[i]? with | some b => if !b.live && b.dtor then 1 else 0 | none => 0) ∧
    (∀ l1 l2, s.log = l1 ++ Ev.free i :: l2 → Ev.dtor i ∉ l2) := by
  have g := run_good ops {} h good_init
  have := g.log i
  refine ⟨?_, this.2.2, fun _ _ e => g.ord.split e⟩
  have h1 := this.2.1
  cases hb : (run {} ops).heap[i]? <;> rw [hb] at h1 <;> simpa using h1

/-- `m_mem_size` reports the size requested at creation, and whether a block has a destructor never changes. -/
theorem C10_size_reported (ops : List Op) (i : Nat) (b : Block)
    (hb : (run {} ops).heap[i]? = some b) : (newAttrs ops)[i]? = some (b.size, b.dtor) := by
  have := run_attrs ops {}
  simp only [attrs, List.map_nil, List.nil_append] at this
  rw [← this]
  simp [hb]

/-- Once the caller has dropped all its references every block has been released. -/
theorem C10_no_leak (ops : List Op) (h : okRun {} ops = true)
    (hu : ∀ (i : Nat) (b : Block), (run {} ops).heap[i]? = some b → b.user = 0) :
    ∀ (i : Nat) (b : Block), (run {} ops).heap[i]? = some b → b.live = false := by
  have g := run_good ops {} h good_init
  intro i b hb
  cases hl : b.live with
  | false => rfl
  | true =>
    obtain ⟨k, c, hk, _, hcu⟩ := live_has_user g.bal hb hl
    have := hu k c hk
    omega

/-! ## Non-vacuity: concrete histories meeting the hypotheses, with nesting and sharing -/

/-- block 0 shared by the caller and two owners (1, 2); owner 2 is itself owned by 3 -/
def demo : List Op :=
  [.new 8 true none, .ref 0, .ref 0, .new 1 true (some 0), .new 0 true (some 0), .new 40 true (some 2),
   .size 0, .unref 1, .unref 0, .unref 3]

example : okRun {} demo = true := by decide
example : (run {} demo).log =
    [.dtor 1, .free 1, .dtor 3, .dtor 2, .dtor 0, .free 0, .free 2, .free 3] := by decide
example : (run {} demo).heap.all (fun b => b.user == 0 && !b.live) = true := by decide
/-- the precondition matters: dropping a reference twice is a use-after-free in the model too -/
example : (run {} [.new 8 false none, .unref 0, .unref 0]).fault = true := by decide

end Lm.Props.C10
