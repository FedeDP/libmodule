import Lm.Inst.CoreTie
import Lm.Inv.CoreSafe
import Lm.Inv.CoreGuards
/-!
# C01 — Module lifecycle follows the documented state machine; callbacks pair up

Theorems about `Lm.Core` (the model of ctx.c/mod.c/ps.c/evts.c/src.c after the fix commits), which the
correspondence check ties to the compiled library.  `run {} ops` ranges over **every** finite sequence
of script lines: API calls issued from outside the loop or re-entrantly from inside
start/stop/eval/event callbacks at any nesting depth, with every combination of callback return values.
-/
namespace Lm.Props.C01
open Lm.Core

/-- clause (f): in every reachable configuration — also in the middle of callbacks — the number of
running modules reported by the context equals the number of its modules in RUNNING state -/
theorem C01_running_counter (ops : List Op) (c : Ctx) (h : (run {} ops).st.ctx = some c) :
    c.running = ((run {} ops).st.mods.filter (fun md => md.state == .running && md.ctxId == c.id)).length := by
  have := (reach_inv ops).1.run c h
  rw [this, runCount, St.sigs, List.countP_map, List.countP_eq_length_filter]
  rfl

/-- a module that left its context's table (deregistration in progress or done) is STOPPED or a ZOMBIE:
in particular it is never RUNNING, never PAUSED and never evaluated/started again -/
theorem C01_deregistered_never_runs (ops : List Op) (m : ModId) (md : Mod)
    (h : (run {} ops).st.mods[m]? = some md) (hout : md.inCtx = false) : md.state = .stopped ∨ md.state = .zombie :=
  (reach_inv ops).1.out m md.sig (sig_of_mod _ m md h) hout

/-- the same invariants hold for the state in which every suspended library activation will be resumed:
whatever a callback does, the library code continues from a consistent state -/
theorem C01_consistent_at_every_callback_boundary (ops : List Op) : CfgOK Inv Mono (run {} ops) := reach_inv ops

/-- **clause (a), for every history**: every state change the library ever performs — in any sequence of calls, from
outside the loop or from inside start / stop / eval / event callbacks at any depth, whatever the callbacks return — is a
documented edge: IDLE→RUNNING, RUNNING⇄PAUSED, RUNNING|PAUSED→STOPPED, STOPPED→RUNNING, anything→ZOMBIE (final; nothing
leaves ZOMBIE), or no change; IDLE→STOPPED occurs only as the first half of a deregistration (`t.out`: the module was
already taken out of its context's table; the stop hook runs, then the module becomes a ZOMBIE).
`trans` is the ghost log `setState` appends to: the only place of the model where a module's state is assigned. -/
theorem C01_every_transition_documented (ops : List Op) : ∀ t ∈ (run {} ops).st.trans, t.ok = true :=
  (reach_inv ops).1.trans

/-- what `ok` says, spelled out -/
theorem C01_documented_edges (t : Trans) (h : t.ok = true) :
    t.src = t.dst ∨ (t.src = .idle ∧ t.dst = .running) ∨ (t.src = .running ∧ t.dst = .paused) ∨ (t.src = .paused ∧ t.dst = .running) ∨
    (t.src = .running ∧ t.dst = .stopped) ∨ (t.src = .paused ∧ t.dst = .stopped) ∨ (t.src = .stopped ∧ t.dst = .running) ∨
    (t.src ≠ .zombie ∧ t.dst = .zombie) ∨ (t.src = .idle ∧ t.dst = .stopped ∧ t.out = true) := by
  cases t with
  | mk m src dst out =>
    cases src <;> cases dst <;> simp [Trans.ok] at h ⊢ <;> exact h

/-- the log is faithful (so the theorem above is about *every* state change, not about a log that could be bypassed):
in every reachable configuration the state of each module is the target of its last logged change (IDLE if it never
changed), and only existing modules are logged -/
theorem C01_log_is_faithful (ops : List Op) (m : ModId) (md : Mod) (h : (run {} ops).st.mods[m]? = some md) :
    lastState (run {} ops).st.trans m = md.state :=
  (reach_inv ops).1.log m md.sig (sig_of_mod _ m md h)

/-- ZOMBIE is final and IDLE is only an initial state, in every history: no state change ever leaves ZOMBIE, none ever
enters IDLE -/
theorem C01_zombie_final_idle_initial (ops : List Op) (t : Trans) (h : t ∈ (run {} ops).st.trans) :
    (t.src = .zombie → t.dst = .zombie) ∧ (t.dst = .idle → t.src = .idle) := by
  have hok := C01_every_transition_documented ops t h
  cases t with
  | mk m src dst out => cases src <;> cases dst <;> simp [Trans.ok] at hok ⊢

/-- clause (b), m_mod_start: in any state other than IDLE / STOPPED the call fails and changes nothing -/
theorem C01_start_refused (s : St) (m : ModId) (md : Mod) (hm : s.mods[m]? = some md)
    (hs : md.state ≠ .idle ∧ md.state ≠ .stopped) : ∃ code : Int, code < 0 ∧ Refuses (apiStart m) s code := by
  cases hma : modAssert s m with
  | some e => exact ⟨e, modAssert_neg s m e hma, start_refuses_assert s m e hma⟩
  | none => exact ⟨EACCES, by decide, by simp [Refuses, apiStart, hma, hm, hs.1, hs.2]⟩

/-- clause (b), m_mod_pause / m_mod_resume / m_mod_stop outside their states -/
theorem C01_pause_refused (s : St) (m : ModId) (md : Mod) (hm : s.mods[m]? = some md) (hs : md.state ≠ .running) :
    ∃ code : Int, code < 0 ∧ Refuses (apiPause m) s code :=
  guarded_refuses_state s m md _ _ _ _ hm (by simp [hs])

theorem C01_resume_refused (s : St) (m : ModId) (md : Mod) (hm : s.mods[m]? = some md) (hs : md.state ≠ .paused) :
    ∃ code : Int, code < 0 ∧ Refuses (apiResume m) s code :=
  guarded_refuses_state s m md _ _ _ _ hm (by simp [hs])

theorem C01_stop_refused (s : St) (m : ModId) (md : Mod) (hm : s.mods[m]? = some md)
    (hs : md.state ≠ .running ∧ md.state ≠ .paused) : ∃ code : Int, code < 0 ∧ Refuses (apiStop m) s code :=
  guarded_refuses_state s m md _ _ _ _ hm (by simp [hs.1, hs.2])

/-- clause (a), ZOMBIE is final: every state-changing call on a ZOMBIE fails with -EACCES and changes nothing -/
theorem C01_zombie_refuses_everything (s : St) (m : ModId) (md : Mod) (hm : s.mods[m]? = some md) (hz : md.state = .zombie) :
    Refuses (apiStart m) s EACCES ∧ Refuses (apiPause m) s EACCES ∧ Refuses (apiResume m) s EACCES ∧
    Refuses (apiStop m) s EACCES ∧ Refuses (modDeregisterP m) s EACCES :=
  ⟨start_refuses_assert s m _ (modAssert_zombie hm hz), guarded_refuses_zombie s m md _ _ _ _ hm hz,
    guarded_refuses_zombie s m md _ _ _ _ hm hz, guarded_refuses_zombie s m md _ _ _ _ hm hz,
    dereg_refuses_assert s m _ _ (modAssert_zombie hm hz)⟩

/-- pause and resume run neither the start nor the stop callback: the pause program contains no callback at
all — it returns without suspending, whatever the state -/
theorem C01_pause_runs_no_callback (s : St) (m : ModId) : ∃ s' code, runP (apiPause m) s = (s', .inl code) := by
  unfold apiPause
  rw [runP_guarded]
  cases modAssert s m with
  | some e => exact ⟨_, _, rfl⟩
  | none =>
    cases s.mods[m]? with
    | none => exact ⟨_, _, rfl⟩
    | some md =>
      simp only [noDeny, Bool.false_eq_true, if_false, if_true]
      split
      · exact ⟨_, _, rfl⟩
      · cases consumeToken s m with
        | none => exact ⟨_, _, rfl⟩
        | some s' =>
          simp only [stopP, runP_modify_bind, runP_getSt_bind, Bool.false_eq_true, if_false, pure_bind']
          split <;> exact ⟨_, _, rfl⟩

/-! ### Non-vacuity: a history with nesting — a start hook that starts another module, a refusing start,
a deregistration from inside a handler — reaches non-trivial states that satisfy the invariants -/

def demo : List Op :=
  [.ctxReg false, .reg "h0" "A" 5 {} { start := true, stop := true }, .reg "h1" "B" 9 {} { start := true },
   .start 0, .start 1, .ret false, .ret true, .pause 0, .resume 0, .dereg 0, .start 0, .ret true]

example : ((run {} demo).st.mods.map (·.state)) = [.zombie, .stopped] := by decide +kernel
example : 5 ≤ (run {} demo).st.trans.length ∧ (run {} demo).st.trans.all (·.ok) = true := by decide +kernel
example : ((run {} demo).st.ctx.map (·.running)) = some 0 := by decide +kernel
example : (run {} (demo.take 5)).stack.length = 2 := by decide +kernel
example : ((run {} (demo.take 9)).st.ctx.map (·.running)) = some 1 := by decide +kernel


/-- tie A: the guard prefixes of the entry points this property is about, re-extracted from the source on every run,
are the ones the model transcribes (`Lm.Inst.CoreTie`) -/
theorem C01_guards_in_source :
    Lm.Inst.CoreTie.slice Lm.Generated.CoreGuards.guards ["m_mod_start", "m_mod_pause", "m_mod_resume", "m_mod_stop", "mod_deregister", "m_mod_deregister"] = Lm.Inst.CoreTie.slice Lm.Inst.CoreTie.expected ["m_mod_start", "m_mod_pause", "m_mod_resume", "m_mod_stop", "mod_deregister", "m_mod_deregister"] := rfl

end Lm.Props.C01
