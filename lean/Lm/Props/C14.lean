import Lm.Multi
import Lm.Inv.CoreForeign
import Lm.Inv.CoreSafe
import Lm.Inst.CoreTie
import Lm.Generated.Threads
/-! # C14 — Contexts on different threads are independent; modules are thread-confined

Partial.  Three layers:
* **source inventory (tie A, regenerated on every run)**: `Lm.Generated.Statics.inventory` lists every object with static
  storage duration in Lib/ and every site that writes it or lets its address escape.  `C14_no_shared_mutable_statics`
  is the obligation that none of them is mutable state shared by the contexts;
* **model**: with no shared component, a `World` of per-thread machines is non-interfering for every interleaving, and every
  module operation attempted from a foreign thread, and every message addressed across contexts, is refused without effect;
* **compiled code (sampled)**: concurrent runs of several contexts must reproduce each context's solo trace, under
  ThreadSanitizer without any report in Lib/.  Data-race freedom of the C code is a property of the runtime; it is
  sampled, not proved.
-/
namespace Lm.Props.C14
open Lm.Core Lm.Multi Lm.Generated.Statics

/-- a site is harmless when it runs before/after all threads (constructor, destructor), exactly once under
`pthread_once`, or is the documented set-up call that must precede any other use of the library -/
def allowedSite (e : Entry) (s : Site) : Bool :=
  s.fnKind == "constructor" || s.fnKind == "destructor" || s.fnKind == "once" ||
  (e.name == "memhook" && s.fn == "m_set_memhook")

/-- static objects that some ordinary function writes (or hands out a writable pointer to) and that are neither
`const` nor synchronisation objects -/
def sharedMutable : List Entry :=
  inventory.filter fun e => !e.const && !e.sync && e.sites.any (fun s => !allowedSite e s)

/-- **No mutable state is shared between contexts**: re-checked against the source on every run.  A new `static`
counter, cache or scratch buffer used by the receive loop (or anywhere else in Lib/) makes this false. -/
theorem C14_no_shared_mutable_statics : sharedMutable = [] := by decide

/-- the synchronisation objects are only the thread-key `pthread_once` guard; no lock is shared by the contexts -/
theorem C14_sync_objects : (inventory.filter (·.sync)).map (·.name) = ["key_once"] := by decide

/-- **Task threads communicate only through an eventfd write** (tie A, regenerated on every run): the only function
Lib/core hands to another thread is `task_thread`; everything reachable from it is the user's task function (the one
indirect call), `poll_notify_userevent` and the `write(2)` it makes on the source's own eventfd; its only stores
through a pointer are the return value it leaves in its own source and the atomic mark that says it is done with that source
(D-04g: whoever drops the source waits for the mark).  In particular it takes no reference, touches no
reference count, no map, no queue and no poll set of the context looping on the other thread. -/
theorem C14_task_thread_footprint :
    Lm.Generated.Threads.entries.map (·.entry) = ["task_thread"] ∧
    (∀ e ∈ Lm.Generated.Threads.entries,
      (∀ f ∈ e.calls, f ∈ ["poll_notify_userevent", "write", "__errno_location"]) ∧
      e.indirect = ["task_thread: src->task_src.tid.fn"] ∧
      e.writes = ["task_thread: atomic &src->task_src.state", "task_thread: src->task_src.retval"]) := by decide

/-- **Independence**: for every interleaving of the lines of any number of threads, each thread's configuration and
complete output trace are those of its own lines run alone -/
theorem C14_interleaving_irrelevant (ls : List Line) (w : World) (t : Nat) :
    (wrun w ls).threads[t]? = (w.threads[t]?).map (fun c => run c (project t ls)) :=
  interleaving_irrelevant ls w t

/-- **Thread confinement**: in every reachable configuration, every module operation or pub/sub call on a live module,
made by a thread that holds another context (`hc = true`) or none, returns -EPERM (-EINVAL when a parameter check in front
of the module check already failed) and leaves the owner's configuration untouched -/
theorem C14_foreign_thread_refused (ops : List Op) (hc : Bool) (op : Op) (m : ModId) (md : Mod)
    (ht : op.modTarget = some m) (hm : (run {} ops).st.mods[m]? = some md) (hz : md.state ≠ .zombie) :
    ∃ code : Int, step (run {} ops) (.foreign hc op) = { run {} ops with st := (run {} ops).st.emit (.ret code) } ∧
      (op.paramsOk = true → code = EPERM) ∧ (op.paramsOk = false → code = EINVAL) := by
  have hf := (reach_inv ops).1.fresh.1 m md.sig (sig_of_mod _ m md hm)
  exact foreign_refused (run {} ops) hc op m md ht hm hz hf

/-- a ZOMBIE handle used from a foreign thread is refused as well (-EACCES: the handle is checked first) -/
theorem C14_foreign_thread_zombie (c : Cfg) (hc : Bool) (op : Op) (m : ModId) (md : Mod)
    (ht : op.modTarget = some m) (hm : c.st.mods[m]? = some md) (hz : md.state = .zombie) :
    ∃ code : Int, code < 0 ∧ step c (.foreign hc op) = { c with st := c.st.emit (.ret code) } :=
  foreign_zombie_refused c hc op m md ht hm hz

/-- **No message crosses a context boundary**: tell and poison pill addressed to a module of another thread's context
fail without effect — -EINVAL once the sender's own guards (live, own thread, not DENY_PUB) passed -/
theorem C14_cross_context_send_refused (ops : List Op) (m : ModId) (md : Mod) (name : String) (pill : Bool)
    (hm : (run {} ops).st.mods[m]? = some md) :
    ∃ code : Int, code < 0 ∧
      step (run {} ops) (.xtell m name pill) = { run {} ops with st := (run {} ops).st.emit (.ret code) } ∧
      (modAssert (run {} ops).st m = none → md.flags.denyPub = false → code = EINVAL) := by
  have hf := (reach_inv ops).1.fresh.1 m md.sig (sig_of_mod _ m md hm)
  exact xtell_refused (run {} ops) m md name pill hm hf

/-- the ownership guard is in front of every module operation of the source (tie A): the first three guards of each are
NULL → -EINVAL, ZOMBIE → -EACCES, `mod->ctx == m_ctx()` → -EPERM, and tell / poison pill compare the two contexts -/
theorem C14_guards_in_source :
    Lm.Inst.CoreTie.ownership Lm.Generated.CoreGuards.guards = Lm.Inst.CoreTie.ownership Lm.Inst.CoreTie.expected := rfl

/-! ### Non-vacuity -/
def demo : List Op :=
  [.ctxReg false, .reg "h0" "A" 5 {} { start := true }, .start 0, .ret true,
   .foreign true (.stop 0), .foreign false (.tell 0 0 7 false), .xtell 0 "A" false, .xtell 0 "A" true]

example : ((run {} demo).st.out.filterMap fun o => match o with | .ret c => some c | _ => none) = [0, 0, 0, -1, -1, -22, -22] := by decide +kernel
example : ((run {} demo).st.mods.map (·.state)) = [.running] := by decide +kernel
example : (wrun { threads := [{}, {}] } [⟨0, .ctxReg false⟩, ⟨1, .ctxReg true⟩, ⟨0, .reg "h" "A" 1 {} {}⟩, ⟨1, .ctxLen⟩]).threads.map
    (fun c => c.st.out.length) = [2, 2] := by decide +kernel

end Lm.Props.C14
