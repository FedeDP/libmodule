import Lm.Inst.CoreTie
import Lm.Inv.CoreGuards
/-! # C16 — Stash/unstash: events come back oldest-first, exactly as many as asked -/
namespace Lm.Props.C16
open Lm.Core

/-- unstash n (guards passed: RUNNING, n > 0, a token) hands the current handler exactly the min(n, stashed)
oldest stashed events, in stash order, in one invocation, and removes them from the stash … -/
theorem C16_unstash_hands_back_oldest (s s' : St) (m : ModId) (md md' : Mod) (n : Nat) (hm : s.mods[m]? = some md)
    (hma : modAssert s m = none) (hr : md.state = .running) (hn : n ≠ 0) (ht : consumeToken s m = some s')
    (hm' : s'.mods[m]? = some md') (hne : md'.stash.take n ≠ []) :
    ∃ k, runP (apiUnstash m n) s =
      (setCurrOf m (some m) (s'.updMod m fun md => { md with stash := md.stash.drop n }),
       .inr (.evt (md'.recvs.headD 0), m, md'.stash.take n, k)) ∧
      (md'.stash.take n).length = min n md'.stash.length := by
  unfold apiUnstash
  rw [guarded_pass_notok s m md _ _ _ hm hma rfl (by simp [hr])]
  have hmm := updMod_self (fun md => { md with stash := md.stash.drop n }) hm'
  have hemp : (md'.stash.take n).isEmpty = false := List.isEmpty_eq_false_iff.mpr hne
  simp only [hn, if_false, runP_getSt_bind, ht, runP_setSt_bind, hm', runP_modify_bind, callPubsubCb, hemp,
    Bool.false_eq_true, bind_assoc', hmm]
  exact ⟨_, rfl, by simp [List.length_take]⟩

/-- … and with nothing stashed it returns 0 without invoking anything -/
theorem C16_unstash_nothing (s s' : St) (m : ModId) (md md' : Mod) (n : Nat) (hm : s.mods[m]? = some md)
    (hma : modAssert s m = none) (hr : md.state = .running) (hn : n ≠ 0) (ht : consumeToken s m = some s')
    (hm' : s'.mods[m]? = some md') (he : md'.stash = []) :
    ∃ s'', runP (apiUnstash m n) s = (s'', .inl 0) := by
  unfold apiUnstash
  rw [guarded_pass_notok s m md _ _ _ hm hma rfl (by simp [hr])]
  simp only [hn, if_false, runP_getSt_bind, ht, runP_setSt_bind, hm', runP_modify_bind, callPubsubCb, he, List.take_nil,
    List.isEmpty_nil, if_true, pure_bind', runP_pure, List.length_nil]
  exact ⟨_, rfl⟩

/-- stashing is allowed only for a RUNNING module … -/
theorem C16_stash_refused_unless_running (s : St) (m : ModId) (md : Mod) (e : Option Evt) (hm : s.mods[m]? = some md)
    (hs : md.state ≠ .running) : ∃ code : Int, code < 0 ∧ Refuses (apiStash m e) s code :=
  guarded_refuses_state s m md _ _ _ _ hm (by simp [hs])

/-- … and never for high-priority events (-EPERM; only the token is consumed) -/
theorem C16_stash_refuses_high_priority (s s' : St) (m : ModId) (md : Mod) (e : Evt) (hm : s.mods[m]? = some md)
    (hma : modAssert s m = none) (hr : md.state = .running) (ht : consumeToken s m = some s')
    (hh : srcPrio s' e = some .high) : runP (apiStash m (some e)) s = (s', .inl EPERM) := by
  unfold apiStash
  rw [guarded_pass_notok s m md _ _ _ hm hma rfl (by simp [hr])]
  simp [ht, hh]

/-- a stashed event is appended at the end of the stash with its original content -/
theorem C16_stash_appends (s s' : St) (m : ModId) (md : Mod) (e : Evt) (hm : s.mods[m]? = some md)
    (hma : modAssert s m = none) (hr : md.state = .running) (ht : consumeToken s m = some s')
    (hh : srcPrio s' e ≠ some .high) :
    runP (apiStash m (some e)) s = (s'.updMod m (fun md => { md with stash := md.stash ++ [e] }), .inl 0) := by
  unfold apiStash
  rw [guarded_pass_notok s m md _ _ _ hm hma rfl (by simp [hr])]
  simp [ht, hh]

/-- events still stashed when the module stops are discarded: `reset_module` empties the stash -/
theorem C16_stop_discards_stash (md : Mod) : md.reset.stash = [] ∧ md.reset.batch = [] := ⟨rfl, rfl⟩


/-- tie A: the guard prefixes of the entry points this property is about, re-extracted from the source on every run,
are the ones the model transcribes (`Lm.Inst.CoreTie`) -/
theorem C16_guards_in_source :
    Lm.Inst.CoreTie.slice Lm.Generated.CoreGuards.guards ["m_mod_stash", "m_mod_unstash"] = Lm.Inst.CoreTie.slice Lm.Inst.CoreTie.expected ["m_mod_stash", "m_mod_unstash"] := rfl

end Lm.Props.C16
