import Lm.Inst.CoreTie
import Lm.Inv.CoreGuards
/-! # C18 — Token bucket bounds the rate of a module's actions

Time is counted in refill ticks: the bucket's refill timer (period ⌊10⁹/rate⌋ ns) delivers one internal event
per expiry; that a periodic timer of period P fires at most ⌊t/P⌋+1 times in t ns is the kernel's guarantee. -/
namespace Lm.Props.C18
open Lm.Core

/-- tokens of a module (none: no bucket, unlimited) -/
def tokens (s : St) (m : ModId) : Option Nat := (s.mods[m]?).bind fun md => md.tb.map (·.tokens)
def burst (s : St) (m : ModId) : Option Nat := (s.mods[m]?).bind fun md => md.tb.map (·.burst)

/-- a token-consuming call takes exactly one token when one is left … -/
theorem C18_consume_takes_one (s : St) (m : ModId) (md : Mod) (tb : TB) (hm : s.mods[m]? = some md) (ht : md.tb = some tb)
    (hp : 0 < tb.tokens) : ∃ s', consumeToken s m = some s' ∧ tokens s' m = some (tb.tokens - 1) ∧ burst s' m = some tb.burst := by
  have h0 : ¬ tb.tokens = 0 := by omega
  refine ⟨s.updMod m fun md => { md with tb := some { tb with tokens := tb.tokens - 1 } }, by simp [consumeToken, hm, ht, h0], ?_, ?_⟩ <;>
    simp [tokens, burst, updMod_self _ hm]

/-- … and is refused with -EAGAIN, changing nothing, when none is left (for every guarded token-consuming call) -/
theorem C18_exhausted_refused (s : St) (m : ModId) (md : Mod) (deny mask) (body : Prog Int) (tb : TB)
    (hm : s.mods[m]? = some md) (hma : modAssert s m = none) (hd : deny md.flags = false)
    (hmask : (match mask with | some l => !l.contains md.state | none => false) = false)
    (htb : md.tb = some tb) (h0 : tb.tokens = 0) : Refuses (guarded m deny mask true body) s EAGAIN :=
  guarded_refuses_token s m md deny mask body hm hma hd hmask tb htb h0

/-- without a bucket nothing is ever refused for lack of tokens -/
theorem C18_no_bucket_no_limit (s : St) (m : ModId) (md : Mod) (hm : s.mods[m]? = some md) (ht : md.tb = none) :
    consumeToken s m = some s := by
  simp [consumeToken, hm, ht]

/-- a refill tick adds one token, never beyond the burst -/
theorem C18_refill_capped (s : St) (m : ModId) (md : Mod) (tb : TB) (e : Evt) (hm : s.mods[m]? = some md) (ht : md.tb = some tb)
    (hr : srcRole s e = .tbTimer) (hinv : tb.tokens ≤ tb.burst) :
    tokens (pushEvtStore s m e) m = some (min (tb.tokens + 1) tb.burst) ∧ burst (pushEvtStore s m e) m = some tb.burst := by
  have d1 : (Role.tbTimer != Role.user) = true := by decide
  unfold pushEvtStore
  simp only [hr, d1, if_true, beq_self_eq_true]
  have : min (tb.tokens + 1) tb.burst = if tb.tokens < tb.burst then tb.tokens + 1 else tb.tokens := by split <;> omega
  by_cases hlt2 : tb.tokens < tb.burst <;> simp [tokens, burst, updMod_self _ hm, ht, hlt2, this]

/-- **The bound.**  Abstract history of one bucket: `true` = a refill tick, `false` = a successful token-consuming
call.  Starting from `t0 ≤ b` tokens, the number of successes in any history is at most `t0` + the number of ticks —
hence at most `b + r·t` in any interval of `t` seconds containing at most `r·t` ticks. -/
def play (b : Nat) : Nat → List Bool → Option Nat
  | t, [] => some t
  | t, true :: rest => play b (min (t + 1) b) rest
  | t, false :: rest => if t = 0 then none else play b (t - 1) rest

theorem C18_successes_bounded (b : Nat) : ∀ (h : List Bool) (t0 t : Nat), t0 ≤ b → play b t0 h = some t →
    h.count false + t ≤ t0 + h.count true ∧ t ≤ b := by
  intro h
  induction h with
  | nil => intro t0 t hb hp; cases hp; exact ⟨by simp, hb⟩
  | cons x xs ih =>
    intro t0 t hb hp
    cases x with
    | true =>
      have := ih (min (t0 + 1) b) t (by omega) hp
      rw [List.count_cons_self, List.count_cons_of_ne (by decide)]
      omega
    | false =>
      simp only [play] at hp
      split at hp
      · cases hp
      · have := ih (t0 - 1) t (by omega) hp
        rw [List.count_cons_self, List.count_cons_of_ne (by decide)]
        omega

/-- setting rate 0 removes the limit, and so does stopping the module -/
theorem C18_rate_zero_or_stop_removes_limit (md : Mod) : md.reset.tb = none ∧ md.reset.tbTimer = 0 := ⟨rfl, rfl⟩

/-- configuring a bucket starts it full; the refill timer period is ⌊10⁹/rate⌋ ns -/
theorem C18_configured_full (md : Mod) (rate b : Nat) :
    ({ md with tb := some { rate := rate, burst := b, tokens := b }, tbTimer := BILLION / rate } : Mod).tb = some { rate := rate, burst := b, tokens := b } := rfl

example : play 2 2 [false, false, true, false] = some 0 := by decide +kernel
example : play 2 2 [false, false, false] = none := by decide +kernel


/-- tie A: the guard prefixes of the entry points this property is about, re-extracted from the source on every run,
are the ones the model transcribes (`Lm.Inst.CoreTie`) -/
theorem C18_guards_in_source :
    Lm.Inst.CoreTie.slice Lm.Generated.CoreGuards.guards ["m_mod_set_tokenbucket"] = Lm.Inst.CoreTie.slice Lm.Inst.CoreTie.expected ["m_mod_set_tokenbucket"] := rfl

end Lm.Props.C18
