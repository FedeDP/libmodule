import Lm.Inst.CoreTie
import Lm.Props.C02
/-! # C19 — System notifications mirror loop and module transitions one-to-one

Each occurrence (loop started/stopped, module entered/left RUNNING, tick) is one call of `tell_system_pubsub_msg`
placed at the corresponding point of `loop_start`, `loop_stop`, `start`, `stop`, `process_tick`; the message it
builds is system-flagged, payload-less and names the module concerned as sender; delivery then follows C02/C08. -/
namespace Lm.Props.C19
open Lm.Core

/-- the shape of every notification: system flag set, no payload, the given topic and sender, never auto-freed -/
theorem C19_notification_shape (s : St) (recipient sender : Option ModId) (topic : String) (r : ModId) (md : Mod) (q : List Msg)
    (hm : (match sender with | some m => s.updMod m (fun x => { x with sent := x.sent + 1 }) | none => s).mods[r]? = some md)
    (he : md.state = .running ∨ md.state = .paused) (hp : md.pipe = some q) (hroom : q.length + md.pipeSkip < pipeCap) :
    ∃ c md', (tellSystem s (some r) sender topic).mods[r]? = some md' ∧ md'.pipe = some (q ++ [c]) ∧
      c.sys = true ∧ c.payload = 0 ∧ c.topic = some topic ∧ c.sender = sender := by
  unfold tellSystem tellPubsub
  exact ⟨_, _, Lm.Props.C02.C02_eligible_gets_one_copy _ _ .direct r md q hm he hp hroom, rfl, rfl, rfl, rfl, rfl⟩

/-- a module that is neither RUNNING nor PAUSED is sent nothing -/
theorem C19_only_running_or_paused (s : St) (msg : Msg) (key : TellKey) (r : ModId) (md : Mod) (hm : s.mods[r]? = some md)
    (h : md.state ≠ .running ∧ md.state ≠ .paused) : tellIf s msg key r = s :=
  Lm.Props.C02.C02_not_eligible_no_effect s msg key r md hm h

/-- user code cannot forge a notification: publishing on the reserved prefix is refused (C15) and messages built by
`send_msg` never carry the system flag -/
theorem C19_user_messages_never_system (s : St) (m r : ModId) (md : Mod) (q : List Msg) (p : Nat) (topic : Option String)
    (hm : (s.updMod m fun x => { x with sent := x.sent + 1 }).mods[r]? = some md) (he : md.state = .running ∨ md.state = .paused)
    (hp : md.pipe = some q) (hroom : q.length + md.pipeSkip < pipeCap) :
    ∃ c md', (sendMsg s m (some r) topic p false).mods[r]? = some md' ∧ md'.pipe = some (q ++ [c]) ∧ c.sys = false ∧ c.payload = p := by
  unfold sendMsg tellPubsub
  simp only [Bool.false_eq_true, if_false]
  exact ⟨_, _, Lm.Props.C02.C02_eligible_gets_one_copy _ _ .direct r md q hm he hp hroom, rfl, rfl, rfl⟩

/-- pause and resume notify like stop and start do (the module left / entered RUNNING), a refused start notifies only
the stop: the notification calls sit in `start()`/`stop()` themselves, which all four transitions go through — see the
program texts `startP`, `stopP`; this lemma records that the pause program ends with the MOD_STOPPED notification -/
theorem C19_pause_notifies (m : ModId) (s : St) :
    runP (stopP m false) s =
      (tellSystem (stopStep (manageSrcsRm s m false) m .paused false) none (some m) T_MOD_STOPPED, .inl 0) := by
  unfold stopP
  simp only [runP_modify_bind, runP_getSt_bind, Bool.false_eq_true, if_false, pure_bind']
  have : (0 : Int) ≠ ENOENT := by decide
  simp [this]


/-- **One notification per occurrence and subscriber**: a notification without recipient (loop started / stopped, module
started / stopped, tick) is one walk over the module table; exactly the RUNNING or PAUSED modules holding a subscription that
matches the system topic get exactly one copy, system-flagged and payload-less, tagged with that subscription; every other
module is untouched (`C02_publish_exactly_the_subscribed` for the message `tell_system_pubsub_msg` builds). -/
theorem C19_one_notification_per_subscriber (s : St) (topic : String) (k : ModId) (md : Mod) (hm : s.mods[k]? = some md) :
    (k ∈ s.tableOrder → ((md.state ≠ .running ∧ md.state ≠ .paused) ∨ fetchSub s md topic = none) →
      (tellSystem s none none topic).mods[k]? = some md) ∧
    (k ∈ s.tableOrder → (md.state = .running ∨ md.state = .paused) → ∀ sub, fetchSub s md topic = some sub → ∀ q, md.pipe = some q →
      q.length + md.pipeSkip < pipeCap →
      ∃ copy md', (tellSystem s none none topic).mods[k]? = some md' ∧ md'.pipe = some (q ++ [copy]) ∧ copy.payload = 0 ∧
        copy.sys = true ∧ copy.topic = some topic ∧ copy.sub = some sub ∧ md'.state = md.state) := by
  have h := Lm.Props.C02.C02_publish_exactly_the_subscribed s
    { sender := none, topic := some topic, payload := 0, sys := true, holder := none, sub := none, pill := false } topic rfl k md hm
  refine ⟨h.2.1, fun hk he sub hf q hp hroom => ?_⟩
  obtain ⟨c, md', h1, h2, h3, _, h5, h6, h7, h8⟩ := h.2.2 hk he sub hf q hp hroom
  exact ⟨c, md', h1, h2, h3, h8, h5, h6, h7⟩

/-- the same for the notifications that name a module (it entered or left RUNNING): `tell_system_pubsub_msg` first counts the
message on the named module (`sent`), then walks the table; stated about the state after that count -/
theorem C19_one_transition_notification_per_subscriber (s : St) (m : ModId) (topic : String) (k : ModId) (md : Mod)
    (hm : (s.updMod m fun x => { x with sent := x.sent + 1 }).mods[k]? = some md) :
    let s1 := s.updMod m fun x => { x with sent := x.sent + 1 }
    (k ∈ s1.tableOrder → ((md.state ≠ .running ∧ md.state ≠ .paused) ∨ fetchSub s1 md topic = none) →
      (tellSystem s none (some m) topic).mods[k]? = some md) ∧
    (k ∈ s1.tableOrder → (md.state = .running ∨ md.state = .paused) → ∀ sub, fetchSub s1 md topic = some sub → ∀ q, md.pipe = some q →
      q.length + md.pipeSkip < pipeCap →
      ∃ copy md', (tellSystem s none (some m) topic).mods[k]? = some md' ∧ md'.pipe = some (q ++ [copy]) ∧ copy.payload = 0 ∧
        copy.sys = true ∧ copy.sender = some m ∧ copy.topic = some topic ∧ copy.sub = some sub ∧ md'.state = md.state) := by
  intro s1
  have h := Lm.Props.C02.C02_publish_exactly_the_subscribed s1
    { sender := some m, topic := some topic, payload := 0, sys := true, holder := none, sub := none, pill := false } topic rfl k md hm
  refine ⟨h.2.1, fun hk he sub hf q hp hroom => ?_⟩
  obtain ⟨c, md', h1, h2, h3, h4, h5, h6, h7, h8⟩ := h.2.2 hk he sub hf q hp hroom
  exact ⟨c, md', h1, h2, h3, h8, h4, h5, h6, h7⟩

/-- tie A: the guard prefixes of the entry points this property is about, re-extracted from the source on every run,
are the ones the model transcribes (`Lm.Inst.CoreTie`) -/
theorem C19_guards_in_source :
    Lm.Inst.CoreTie.slice Lm.Generated.CoreGuards.guards ["m_ctx_set_tick"] = Lm.Inst.CoreTie.slice Lm.Inst.CoreTie.expected ["m_ctx_set_tick"] := rfl

end Lm.Props.C19
