import Lm.Inv.ThpoolLive
import Lm.Inv.ThpoolHist
/-!
# C06 — Thread pool runs each accepted task exactly once and shuts down cleanly

Property theorems only.  They are about the transition system `Lm.Thpool` (one program counter per
pthread primitive / shared-state access group of `Lib/thpool/thpool.c` after the fix commits); trace
acceptance (`lmdriver thpool`, fed with schedules recorded from the compiled library under the
scheduler shim) ties that system to the code.

Quantification.  `Hist c ls s`: `s` is the state after the label sequence `ls` from the initial state
of the configuration `c` (any `max_threads ≥ 1`, eager / LAZY / DETACHED in any combination).  A label
sequence is an arbitrary interleaving, at the granularity of lock / condition / thread primitives and
shared-memory accesses, of: thread 0 (`m_thpool_new`, later `m_thpool_free`), any number of submitter
threads each issuing any number of `m_thpool_add` calls, and the pool workers — whose tasks may themselves call
`m_thpool_add` on the pool they run on, at any time, also while `m_thpool_free` is in progress — including spurious
wake-ups, the choice of the waiter a signal wakes, and `pthread_create` failures.  Nothing bounds the
number of threads or tasks.

Precondition (`okRun`, part of `Hist`; decidable on label sequences): the handle is live for every
`m_thpool_add` of a submitter thread (`m_thpool_new` has returned, `m_thpool_free` has not been called) and
`m_thpool_free` is called when no `m_thpool_add` of a submitter thread is in progress.  Submissions made by tasks have
no precondition: a running task keeps its pool alive.

What is *not* here: liveness beyond deadlock freedom (that every fair schedule terminates).
-/
namespace Lm.Props.C06
open Lm.Thpool

variable {c : Cfg} {ls : List Label} {s : State}

/-! ## Every accepted task is executed at most once, with the argument it was submitted with -/

/-- A task's function is called at most once; it is only called for a task the pool accepted. -/
theorem C06_exec_at_most_once (hc : 0 < c.maxThreads) (h : Hist c ls s) (k : TaskId) :
    (s.task k).execCount ≤ 1 ∧ ((s.task k).execCount = 1 ↔ (s.task k).started = true) ∧
    ((s.task k).started = true → (s.task k).accepted = true ∧ (s.task k).discarded = false) := by
  have hi := hist_inv hc h
  have e := hi.execCnt k
  refine ⟨?_, ?_, fun hs => ⟨hi.startAcc k hs, ?_⟩⟩
  · rw [e]; split <;> omega
  · rw [e]; cases (s.task k).started <;> simp
  · cases hd : (s.task k).discarded with
    | false => rfl
    | true => have := (hi.discInv k hd).2; rw [hs] at this; cases this

/-- If `m_thpool_add` was called for task `k` with argument `a` anywhere in the history, and the task
has been started, then its function was called with `a`. -/
theorem C06_own_argument (hc : 0 < c.maxThreads) (l1 l2 : List Label) (t : Tid) (k : TaskId) (a : Nat)
    (h : Hist c (l1 ++ ⟨t, .addCall k a⟩ :: l2) s) (hs : (s.task k).started = true) :
    (s.task k).ranWith = some a := by
  have hi := hist_inv hc h
  obtain ⟨s1, _, hr, _⟩ := hist_split h
  simp only [run] at hr
  cases hst : step s1 ⟨t, .addCall k a⟩ with
  | none => simp [hst] at hr
  | some s2 =>
    simp only [hst] at hr
    have e := addCall_effect hst
    have st := (stable_run k l2 s2 s hr).1 e.1
    rw [hi.ranArg k hs, st.2, e.2.1]

/-! ## At most `max_threads` threads, hence at most that many tasks running at a time -/

/-- The pool never has more than `max_threads` worker threads, and any set of tasks that are
simultaneously between start and completion has at most `max_threads` elements. -/
theorem C06_bounded_parallelism (hc : 0 < c.maxThreads) (h : Hist c ls s) :
    s.workers.length ≤ c.maxThreads ∧ (∀ u, isW (s.pc u) = true → u ∈ s.workers) ∧
    ∀ L : List TaskId, L.Nodup → (∀ k ∈ L, (s.task k).started = true ∧ (s.task k).finished = false) →
      L.length ≤ c.maxThreads := by
  have hi := hist_inv hc h
  have hw : s.workers.length ≤ c.maxThreads := by have := hi.workersLe; rwa [hist_cfg h] at this
  refine ⟨hw, fun u hu => (hi.workersIff u).mpr hu, fun L hL hrun => ?_⟩
  have hnd : (L.map fun k => (s.task k).runner).Nodup :=
    nodup_map_of_inj _ L hL (fun a ha b hb e => by
      have ra := (hi.runningInv a (hrun a ha).1 (hrun a ha).2).2
      have rb := (hi.runningInv b (hrun b hb).1 (hrun b hb).2).2
      have e' : (s.task a).runner = (s.task b).runner := e
      rw [← ra, ← rb, e'])
  have hsub : (L.map fun k => (s.task k).runner) ⊆ s.workers := by
    intro u hu
    obtain ⟨k, hk, rfl⟩ := List.mem_map.mp hu
    have := (hi.runningInv k (hrun k hk).1 (hrun k hk).2).1
    exact (hi.workersIff _).mpr (inTask_isW _ this)
  have := List.Nodup.length_le_of_subset hnd hsub
  simp only [List.length_map] at this
  omega

/-! ## Mutual exclusion and race freedom -/

/-- program counters at which `pool->tasks`, `pool->threads`, `pool->shutdown` or `pool->alive` is
read or written by code that runs under the pool mutex -/
def lockedAccess : Pc → Bool
  | .wLoop | .wBreakChk | .wBreakLen | .wDequeue | .wExitDec | .sShutChk | .sLazy1 | .sLazy2 | .sInsert | .sEnq
  | .nShutChk | .nLazy1 | .nLazy2 | .nInsert | .nEnq | .fSetShut | .fAliveChk => true
  | _ => false

/-- Every such access happens while the accessing thread owns the mutex, and the mutex has at most
one owner: two threads are never both inside a critical section. -/
theorem C06_mutual_exclusion (hc : 0 < c.maxThreads) (h : Hist c ls s) :
    (∀ u, lockedAccess (s.pc u) = true → s.lockOwner = some u) ∧
    (∀ u v, holds (s.pc u) = true → holds (s.pc v) = true → u = v) := by
  have hi := hist_inv hc h
  refine ⟨fun u hu => hi.mutex u ?_, fun u v => holder_unique hi⟩
  revert hu; cases s.pc u <;> simp [lockedAccess]

/-- The accesses that are *not* under the mutex are exclusive for another reason: nobody else can be
at a conflicting access at the same time.
* while `shutdown` is being written (`fSetShut`) no submitter thread is anywhere inside `m_thpool_add` (its own read of
  `shutdown` is made under the mutex: `C06_mutual_exclusion`);
* `m_thpool_new` inserting into `threads` / incrementing `alive`: no `m_thpool_add` is running and no worker
  is at `alive--`;
* `wait_pool` iterating over `threads`, `m_list_free(threads)`: no `m_thpool_add` is running;
* `m_queue_free(tasks)`: no `m_thpool_add` is running and every worker has made its last pool access. -/
theorem C06_unlocked_accesses_exclusive (hc : 0 < c.maxThreads) (h : Hist c ls s) :
    (∀ u, isS (s.pc u) = true → s.pc 0 ≠ .fSetShut) ∧
    (s.pc 0 = .mNewInsert → ∀ u, isS (s.pc u) = false ∧ s.pc u ≠ .wExitDec) ∧
    ((s.pc 0 = .fJoinInit ∨ s.pc 0 = .fJoin ∨ s.pc 0 = .fListFree) → ∀ u, isS (s.pc u) = false) ∧
    (s.pc 0 = .fQueueFree → ∀ u, isS (s.pc u) = false ∧ (isW (s.pc u) = true → gone (s.pc u) = true)) := by
  have hi := hist_inv hc h
  have noS := no_submitter hi
  refine ⟨fun u hu h0 => ?_, fun h0 u => ⟨noS (by simp [h0]) u, fun hu => ?_⟩,
          fun h0 => noS (by rcases h0 with h0 | h0 | h0 <;> simp [h0]),
          fun h0 u => ⟨noS (by simp [h0]) u, hi.goneAll (Or.inl (by simp [h0])) u⟩⟩
  · have := hi.liveHandle u hu; rw [this] at h0; cases h0
  · exact hi.exitShut u (by simp [hu]) (hi.shutNo (by simp [h0]))

/-- **Submission and shutdown exclude each other** (D-06d).  `m_thpool_add` checks `shutdown` with the lock held; as long as
a submission — by a submitter thread or by a task running on the pool — is between that check and its unlock, `shutdown` is
`NO` and thread 0 has not got beyond the statement that writes it.  Hence once `wait_pool` has set `shutdown`
(`5 ≤ ph`), nobody inserts into `pool->threads` or into the task queue any more: the unlocked iteration over `threads`
and the frees that follow cannot race with a late submission, and no worker is created that `wait_pool` would not join. -/
theorem C06_add_excludes_shutdown (hc : 0 < c.maxThreads) (h : Hist c ls s) :
    (∀ u, pastChk (s.pc u) = true → s.shutdown = .no ∧ ph (s.pc 0) ≤ 4) ∧
    (5 ≤ ph (s.pc 0) → ∀ u, pastChk (s.pc u) = false) := by
  have hi := hist_inv hc h
  refine ⟨fun u hu => ⟨hi.pastChkNo u hu, ph_of_pastChk hi u hu⟩, fun h5 u => ?_⟩
  cases hp : pastChk (s.pc u) with
  | false => rfl
  | true => have := ph_of_pastChk hi u hp; omega

/-- A task may submit to the pool it runs on at any time.  When its check finds the pool shutting down, the call unlocks and
returns -EPERM into the task; queue, thread list and worker set are untouched. -/
theorem C06_task_submission_refused_during_shutdown (s : State) (t : Tid) (hp : s.pc t = .nShutChk) (hs : s.shutdown ≠ .no) :
    ∃ s1 s2 s3, step s ⟨t, .tau⟩ = some s1 ∧ step s1 ⟨t, .unlock⟩ = some s2 ∧ step s2 ⟨t, .addRet EPERM⟩ = some s3 ∧
      s3.pc t = .wInTask ∧ s3.tasks = s.tasks ∧ s3.threads = s.threads ∧ s3.workers = s.workers ∧ s3.alive = s.alive := by
  refine ⟨_, _, _, by simp [step, hp, hs]; rfl, by simp [step, State.goto]; rfl, by simp [step, State.goto]; rfl, ?_⟩
  simp

/-! ## `m_thpool_free` returns only when the work is done -/

/-- `free(wait_all = true)`: at its return point every accepted task has run to completion
(exactly once). -/
theorem C06_free_wait_all (hc : 0 < c.maxThreads) (h : Hist c ls s)
    (hret : s.pc 0 = .fRet ∨ s.pc 0 = .mDone) (hm : s.mode = true) (k : TaskId)
    (ha : (s.task k).accepted = true) : (s.task k).finished = true ∧ (s.task k).execCount = 1 := by
  have hi := hist_inv hc h
  have hph : 15 ≤ ph (s.pc 0) := by rcases hret with e | e <;> simp [e]
  have hgone := hi.goneAll (Or.inl (by omega))
  have hstarted : (s.task k).started = true := by
    cases hs : (s.task k).started with
    | true => rfl
    | false =>
      -- with `wait_all` nothing is discarded
      have := (hi.discPhase k (discarded_of_gone hi hgone (hi.tasksFreed (by omega)) ha hs)).2
      rw [hm] at this; cases this
  exact ⟨finished_of_gone hi hgone hstarted, by rw [hi.execCnt k, hstarted]; rfl⟩

/-- `free(wait_all = false)`: at its return point every task that had started has completed, and
every accepted task that had not started has been discarded without ever having run. -/
theorem C06_free_wait_curr (hc : 0 < c.maxThreads) (h : Hist c ls s)
    (hret : s.pc 0 = .fRet ∨ s.pc 0 = .mDone) (k : TaskId) :
    ((s.task k).started = true → (s.task k).finished = true) ∧
    ((s.task k).accepted = true → (s.task k).started = false → (s.task k).discarded = true ∧ (s.task k).execCount = 0) := by
  have hi := hist_inv hc h
  have hph : 15 ≤ ph (s.pc 0) := by rcases hret with e | e <;> simp [e]
  have hgone := hi.goneAll (Or.inl (by omega))
  exact ⟨finished_of_gone hi hgone, fun ha hs =>
    ⟨discarded_of_gone hi hgone (hi.tasksFreed (by omega)) ha hs, by rw [hi.execCnt k, hs]; rfl⟩⟩

/-- A discarded task is never executed afterwards, however the history continues. -/
theorem C06_discarded_never_runs (hc : 0 < c.maxThreads) (l1 l2 : List Label) (s1 : State) (k : TaskId)
    (h1 : Hist c l1 s1) (hd : (s1.task k).discarded = true) (h : Hist c (l1 ++ l2) s) :
    (s.task k).discarded = true ∧ (s.task k).started = false ∧ (s.task k).execCount = 0 := by
  have hi := hist_inv hc h
  obtain ⟨s1', h1', hr, _⟩ := hist_split h
  have : s1' = s1 := by have := h1'.2; rw [h1.2] at this; cases this; rfl
  subst this
  have hd' := (stable_run k l2 s1' s hr).2 hd
  have hs := (hi.discInv k hd').2
  exact ⟨hd', hs, by rw [hi.execCnt k, hs]; rfl⟩

/-! ## After free nobody touches the pool (every flavour: eager, LAZY, DETACHED) -/

/-- From the moment the condition variable or the mutex is destroyed or the pool memory is freed —
in particular after `m_thpool_free` has returned — every pool thread is past its last access to the
pool (it is executing `return NULL` or has returned) and no `m_thpool_add` is in progress.  For
joinable pools every worker has moreover returned and been joined. -/
theorem C06_no_touch_after_free (hc : 0 < c.maxThreads) (h : Hist c ls s)
    (hf : s.condDestroyed = true ∨ s.mutexDestroyed = true ∨ s.poolFreed = true ∨ s.pc 0 = .mDone) (u : Tid) (hu : u ≠ 0) :
    (s.pc u = .none ∨ s.pc u = .sIdle ∨ s.pc u = .wRet ∨ s.pc u = .wDone) ∧
    (c.detached = false → s.pc u ≠ .wRet) := by
  have hi := hist_inv hc h
  have hph : 11 ≤ ph (s.pc 0) := by
    rcases hf with e | e | e | e
    · exact hi.flags.1 e
    · have := hi.flags.2.1 e; omega
    · have := hi.flags.2.2 e; omega
    · simp [e]
  have hM := hi.othersNotM u hu
  have hS := no_submitter hi (fun e => by simp [e] at hph) u
  have hG := hi.goneAll (Or.inl (by omega)) u
  refine ⟨?_, fun hd e => ?_⟩
  · revert hM hS hG; cases s.pc u <;> simp
  · have := hi.doneAll (by rw [hist_cfg h]; exact hd) (by omega) u (by simp [e])
    rw [e] at this; cases this

/-! ## No deadlock -/

/-- In every reachable state that is not final (final: `free` has returned, every worker has
returned, no `add` is in progress) some thread can take a step which is neither a spurious wake-up
nor a new `m_thpool_add` call, and the extended history again respects the precondition: neither
submission nor shutdown can get stuck, whatever the interleaving so far. -/
theorem C06_no_deadlock (hc : 0 < c.maxThreads) (h : Hist c ls s) (hnf : ¬ final s) :
    ∃ t a s', step s ⟨t, a⟩ = some s' ∧ a ≠ .spurious ∧ (∀ k v, a ≠ .addCall k v) ∧ Hist c (ls ++ [⟨t, a⟩]) s' := by
  obtain ⟨t, a, s', h1, h2, h3, h4⟩ := progress (hist_inv hc h) hnf
  exact ⟨t, a, s', h1, h3, h4, hist_snoc h h2 h1⟩

/-- In particular a dequeue never finds the queue empty (the `while` around `pthread_cond_wait`). -/
theorem C06_dequeue_nonempty (hc : 0 < c.maxThreads) (h : Hist c ls s) (u : Tid) (hu : s.pc u = .wDequeue) :
    s.tasks ≠ [] :=
  (hist_inv hc h).deqNonempty u hu

/-! ## Non-vacuity: recorded schedules of the real library are histories in the sense above -/

/-- eager pool, 2 workers, one submitter; the first worker runs (and is woken spuriously three times)
while `m_thpool_new` is still creating the second one; `free(wait_all)` -/
def demoEager : List Label :=
  [⟨0, .create 1⟩, ⟨1, .lock⟩, ⟨1, .qlen 0⟩, ⟨1, .wait⟩, ⟨0, .tins 1⟩, ⟨0, .create 2⟩, ⟨1, .spurious⟩, ⟨1, .reacq⟩, ⟨1, .qlen 0⟩, ⟨1, .wait⟩, ⟨1, .spurious⟩, ⟨1, .reacq⟩, ⟨1, .qlen 0⟩, ⟨1, .wait⟩, ⟨1, .spurious⟩, ⟨1, .reacq⟩, ⟨1, .qlen 0⟩, ⟨0, .tins 2⟩, ⟨1, .wait⟩, ⟨0, .newRet true⟩, ⟨2, .lock⟩, ⟨3, .addCall 0 5⟩, ⟨2, .qlen 0⟩, ⟨2, .wait⟩, ⟨3, .lock⟩, ⟨3, .tau⟩, ⟨3, .enq 0⟩, ⟨3, .signal (some 1)⟩, ⟨3, .unlock⟩, ⟨3, .addRet 0⟩, ⟨1, .reacq⟩, ⟨0, .freeCall true⟩, ⟨1, .qlen 1⟩, ⟨1, .tau⟩, ⟨1, .deq 0⟩, ⟨1, .unlock⟩, ⟨1, .tau⟩, ⟨0, .lock⟩, ⟨0, .tau⟩, ⟨0, .broadcast⟩, ⟨0, .unlock⟩, ⟨0, .tau⟩, ⟨1, .taskStart 0 5⟩, ⟨2, .reacq⟩, ⟨2, .qlen 0⟩, ⟨2, .tau⟩, ⟨2, .qlen 0⟩, ⟨2, .tau⟩, ⟨2, .unlock⟩, ⟨2, .exit⟩, ⟨1, .taskEnd 0⟩, ⟨1, .tau⟩, ⟨1, .lock⟩, ⟨1, .qlen 0⟩, ⟨1, .tau⟩, ⟨1, .qlen 0⟩, ⟨1, .tau⟩, ⟨1, .unlock⟩, ⟨0, .join 2⟩, ⟨1, .exit⟩, ⟨0, .join 1⟩, ⟨0, .tau⟩, ⟨0, .destroyCond⟩, ⟨0, .destroyMutex⟩, ⟨0, .qfree []⟩, ⟨0, .tfree⟩, ⟨0, .freePool⟩, ⟨0, .freeRet⟩]

/-- LAZY + DETACHED pool, two submitters racing, two workers created inside `m_thpool_add`;
`free(!wait_all)` waits for the detached workers on the condition variable and discards task 1 -/
def demoLazyDetached : List Label :=
  [⟨0, .newRet true⟩, ⟨2, .addCall 2 7⟩, ⟨1, .addCall 0 5⟩, ⟨2, .lock⟩, ⟨2, .tau⟩, ⟨2, .tau⟩, ⟨2, .tlen 0⟩, ⟨2, .tlen 0⟩, ⟨2, .create 3⟩, ⟨2, .tins 3⟩, ⟨2, .enq 2⟩, ⟨2, .signal none⟩, ⟨2, .unlock⟩, ⟨1, .lock⟩, ⟨1, .tau⟩, ⟨1, .tau⟩, ⟨2, .addRet 0⟩, ⟨1, .tlen 1⟩, ⟨1, .enq 0⟩, ⟨1, .signal none⟩, ⟨1, .unlock⟩, ⟨1, .addRet 0⟩, ⟨1, .addCall 1 6⟩, ⟨3, .lock⟩, ⟨3, .qlen 2⟩, ⟨3, .tau⟩, ⟨3, .deq 2⟩, ⟨3, .unlock⟩, ⟨3, .tau⟩, ⟨3, .taskStart 2 7⟩, ⟨1, .lock⟩, ⟨1, .tau⟩, ⟨1, .tau⟩, ⟨3, .taskEnd 2⟩, ⟨3, .tau⟩, ⟨1, .tlen 1⟩, ⟨1, .tlen 1⟩, ⟨1, .create 4⟩, ⟨1, .tins 4⟩, ⟨1, .enq 1⟩, ⟨1, .signal none⟩, ⟨1, .unlock⟩, ⟨4, .lock⟩, ⟨4, .qlen 2⟩, ⟨4, .tau⟩, ⟨1, .addRet 0⟩, ⟨4, .deq 0⟩, ⟨0, .freeCall false⟩, ⟨4, .unlock⟩, ⟨4, .tau⟩, ⟨4, .taskStart 0 5⟩, ⟨4, .taskEnd 0⟩, ⟨4, .tau⟩, ⟨0, .lock⟩, ⟨0, .tau⟩, ⟨0, .broadcast⟩, ⟨0, .tau⟩, ⟨0, .wait⟩, ⟨3, .lock⟩, ⟨3, .qlen 1⟩, ⟨3, .tau⟩, ⟨3, .tau⟩, ⟨3, .broadcast⟩, ⟨3, .unlock⟩, ⟨4, .lock⟩, ⟨3, .exit⟩, ⟨4, .qlen 1⟩, ⟨4, .tau⟩, ⟨4, .tau⟩, ⟨4, .broadcast⟩, ⟨4, .unlock⟩, ⟨4, .exit⟩, ⟨0, .reacq⟩, ⟨0, .tau⟩, ⟨0, .unlock⟩, ⟨0, .destroyCond⟩, ⟨0, .destroyMutex⟩, ⟨0, .qfree [1]⟩, ⟨0, .tfree⟩, ⟨0, .freePool⟩, ⟨0, .freeRet⟩]

/-- LAZY pool: the second `pthread_create` (inside `m_thpool_add`) fails; the call unlocks and returns the error (D-06b) -/
def demoCreateFailAdd : List Label :=
  [⟨0, .newRet true⟩, ⟨1, .addCall 0 5⟩, ⟨1, .lock⟩, ⟨1, .tau⟩, ⟨1, .tau⟩, ⟨1, .tlen 0⟩, ⟨1, .tlen 0⟩, ⟨1, .create 2⟩, ⟨1, .tins 2⟩, ⟨1, .enq 0⟩, ⟨1, .signal none⟩, ⟨1, .unlock⟩, ⟨2, .lock⟩, ⟨1, .addRet 0⟩, ⟨1, .addCall 1 6⟩, ⟨2, .qlen 1⟩, ⟨2, .tau⟩, ⟨2, .deq 0⟩, ⟨2, .unlock⟩, ⟨2, .tau⟩, ⟨1, .lock⟩, ⟨1, .tau⟩, ⟨1, .tau⟩, ⟨2, .taskStart 0 5⟩, ⟨2, .taskEnd 0⟩, ⟨2, .tau⟩, ⟨1, .tlen 1⟩, ⟨1, .tlen 1⟩, ⟨1, .createFail⟩, ⟨1, .unlock⟩, ⟨1, .addRet 11⟩, ⟨0, .freeCall true⟩, ⟨0, .lock⟩, ⟨0, .tau⟩, ⟨0, .broadcast⟩, ⟨0, .unlock⟩, ⟨0, .tau⟩, ⟨2, .lock⟩, ⟨2, .qlen 0⟩, ⟨2, .tau⟩, ⟨2, .qlen 0⟩, ⟨2, .tau⟩, ⟨2, .unlock⟩, ⟨2, .exit⟩, ⟨0, .join 2⟩, ⟨0, .tau⟩, ⟨0, .destroyCond⟩, ⟨0, .destroyMutex⟩, ⟨0, .qfree []⟩, ⟨0, .tfree⟩, ⟨0, .freePool⟩, ⟨0, .freeRet⟩]

/-- eager DETACHED pool of 3: the third `pthread_create` of `m_thpool_new` fails; the two workers
already started are shut down before the pool is destroyed (D-06c, D-06a) -/
def demoCreateFailNew : List Label :=
  [⟨0, .create 1⟩, ⟨0, .tins 1⟩, ⟨0, .create 2⟩, ⟨0, .tins 2⟩, ⟨0, .createFail⟩, ⟨0, .lock⟩, ⟨0, .tau⟩, ⟨0, .broadcast⟩, ⟨0, .tau⟩, ⟨0, .wait⟩, ⟨2, .lock⟩, ⟨2, .qlen 0⟩, ⟨2, .tau⟩, ⟨2, .tau⟩, ⟨2, .broadcast⟩, ⟨2, .unlock⟩, ⟨0, .reacq⟩, ⟨0, .tau⟩, ⟨0, .wait⟩, ⟨1, .lock⟩, ⟨2, .exit⟩, ⟨1, .qlen 0⟩, ⟨1, .tau⟩, ⟨1, .tau⟩, ⟨1, .broadcast⟩, ⟨1, .unlock⟩, ⟨0, .reacq⟩, ⟨0, .tau⟩, ⟨0, .unlock⟩, ⟨0, .destroyCond⟩, ⟨0, .destroyMutex⟩, ⟨0, .qfree []⟩, ⟨0, .tfree⟩, ⟨1, .exit⟩, ⟨0, .freePool⟩, ⟨0, .newRet false⟩]

/-- LAZY pool, `free(!wait_all)`: the running task submits a follow-up task while `wait_pool` is shutting the pool down; the
call finds `shutdown` set (checked with the lock held) and returns -EPERM (D-06d) -/
def demoNestedRefused : List Label :=
  [⟨0, .newRet true⟩, ⟨1, .addCall 0 100⟩, ⟨1, .lock⟩, ⟨1, .tau⟩, ⟨1, .tau⟩, ⟨1, .tlen 0⟩, ⟨1, .tlen 0⟩, ⟨1, .create 2⟩, ⟨1, .tins 2⟩, ⟨1, .enq 0⟩, ⟨1, .signal none⟩, ⟨1, .unlock⟩, ⟨2, .lock⟩, ⟨2, .qlen 1⟩, ⟨1, .addRet 0⟩, ⟨2, .tau⟩, ⟨2, .deq 0⟩, ⟨0, .freeCall false⟩, ⟨2, .unlock⟩, ⟨2, .tau⟩, ⟨2, .taskStart 0 100⟩, ⟨0, .lock⟩, ⟨0, .tau⟩, ⟨0, .broadcast⟩, ⟨2, .addCall 128 0⟩, ⟨0, .unlock⟩, ⟨0, .tau⟩, ⟨2, .lock⟩, ⟨2, .tau⟩, ⟨2, .unlock⟩, ⟨2, .addRet (-1)⟩, ⟨2, .taskEnd 0⟩, ⟨2, .tau⟩, ⟨2, .lock⟩, ⟨2, .qlen 0⟩, ⟨2, .tau⟩, ⟨2, .tau⟩, ⟨2, .unlock⟩, ⟨2, .exit⟩, ⟨0, .join 2⟩, ⟨0, .tau⟩, ⟨0, .destroyCond⟩, ⟨0, .destroyMutex⟩, ⟨0, .qfree []⟩, ⟨0, .tfree⟩, ⟨0, .freePool⟩, ⟨0, .freeRet⟩]

/-- LAZY pool of one thread, `free(!wait_all)`: the running task's follow-up task is accepted just before the shutdown starts
and is discarded, never run, by `m_queue_free` -/
def demoNestedAccepted : List Label :=
  [⟨0, .newRet true⟩, ⟨1, .addCall 0 100⟩, ⟨1, .lock⟩, ⟨1, .tau⟩, ⟨1, .tau⟩, ⟨1, .tlen 0⟩, ⟨1, .tlen 0⟩, ⟨1, .create 2⟩, ⟨1, .tins 2⟩, ⟨1, .enq 0⟩, ⟨1, .signal none⟩, ⟨1, .unlock⟩, ⟨2, .lock⟩, ⟨1, .addRet 0⟩, ⟨0, .freeCall false⟩, ⟨2, .qlen 1⟩, ⟨2, .tau⟩, ⟨2, .deq 0⟩, ⟨2, .unlock⟩, ⟨2, .tau⟩, ⟨2, .taskStart 0 100⟩, ⟨2, .addCall 128 0⟩, ⟨2, .lock⟩, ⟨2, .tau⟩, ⟨2, .tau⟩, ⟨2, .tlen 1⟩, ⟨2, .tlen 1⟩, ⟨2, .enq 128⟩, ⟨2, .signal none⟩, ⟨2, .unlock⟩, ⟨0, .lock⟩, ⟨0, .tau⟩, ⟨0, .broadcast⟩, ⟨2, .addRet 0⟩, ⟨2, .taskEnd 0⟩, ⟨0, .unlock⟩, ⟨2, .tau⟩, ⟨2, .lock⟩, ⟨0, .tau⟩, ⟨2, .qlen 1⟩, ⟨2, .tau⟩, ⟨2, .tau⟩, ⟨2, .unlock⟩, ⟨2, .exit⟩, ⟨0, .join 2⟩, ⟨0, .tau⟩, ⟨0, .destroyCond⟩, ⟨0, .destroyMutex⟩, ⟨0, .qfree [128]⟩, ⟨0, .tfree⟩, ⟨0, .freePool⟩, ⟨0, .freeRet⟩]

def summary (c : Cfg) (ls : List Label) (tasks : List TaskId) : Option (Pc × Bool × List (Nat × Bool × Bool)) :=
  (run (init c) ls).map fun s => (s.pc 0, s.poolFreed, tasks.map fun k => ((s.task k).execCount, (s.task k).finished, (s.task k).discarded))

example : okRun (init ⟨2, false, false⟩) demoEager = true := by decide
example : summary ⟨2, false, false⟩ demoEager [0] = some (.mDone, true, [(1, true, false)]) := by decide
example : okRun (init ⟨2, true, true⟩) demoLazyDetached = true := by decide
example : summary ⟨2, true, true⟩ demoLazyDetached [0, 1, 2] =
    some (.mDone, true, [(1, true, false), (0, false, true), (1, true, false)]) := by decide
example : okRun (init ⟨2, true, false⟩) demoCreateFailAdd = true := by decide
example : summary ⟨2, true, false⟩ demoCreateFailAdd [0, 1] = some (.mDone, true, [(1, true, false), (0, false, false)]) := by decide
example : okRun (init ⟨3, false, true⟩) demoCreateFailNew = true := by decide
example : summary ⟨3, false, true⟩ demoCreateFailNew [] = some (.mDone, true, []) := by decide

example : okRun (init ⟨2, true, false⟩) demoNestedRefused = true := by decide
example : summary ⟨2, true, false⟩ demoNestedRefused [0, 128] = some (.mDone, true, [(1, true, false), (0, false, false)]) := by decide
example : okRun (init ⟨1, true, false⟩) demoNestedAccepted = true := by decide
example : summary ⟨1, true, false⟩ demoNestedAccepted [0, 128] = some (.mDone, true, [(1, true, false), (0, false, true)]) := by decide

/-- the precondition is a real restriction: calling `free` while an `add` is in progress is refused … -/
example : okRun (init ⟨1, true, false⟩) [⟨0, .newRet true⟩, ⟨1, .addCall 0 5⟩, ⟨0, .freeCall true⟩] = false := by decide
/-- … and so is an `add` on a handle that `free` has already been called on -/
example : okRun (init ⟨1, true, false⟩) [⟨0, .newRet true⟩, ⟨0, .freeCall true⟩, ⟨1, .addCall 0 5⟩] = false := by decide
/-- the model has deadlocks-by-construction for broken variants only: a `signal` that wakes nobody is
accepted only when nobody waits -/
example : (run (init ⟨1, false, false⟩) [⟨0, .create 1⟩, ⟨0, .tins 1⟩, ⟨1, .lock⟩, ⟨1, .qlen 0⟩, ⟨1, .wait⟩, ⟨0, .newRet true⟩, ⟨2, .addCall 0 5⟩, ⟨2, .lock⟩, ⟨2, .tau⟩, ⟨2, .enq 0⟩, ⟨2, .signal none⟩]).isNone = true := by decide

end Lm.Props.C06
