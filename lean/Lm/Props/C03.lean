import Lm.Inst.CoreTie
import Lm.Core.Lemmas
/-! # C03 — Event loop: events reach their owner; loop ends only for stated reasons

Partial: which sources become ready, and when, is the kernel's choice; the statements hold for every recorded poll
result.  errno non-interference holds by construction in the model (no program reads `St.errno`; the `errno` line
only sets that field) and is tied to the code by the correspondence runs, which leave errno dirty in callbacks. -/
namespace Lm.Props.C03
open Lm.Core

/-- an event of a source that left the poll set (its module was paused, stopped or deregistered, or the source was
deregistered by an earlier callback of the same batch) is not delivered: the entry is skipped without any effect -/
theorem C03_stale_entry_skipped (s : St) (i : SrcId) (x : Src) (hx : s.srcs[i]? = some x) (hp : x.polled = false) :
    runP (recvOneP (.src i)) s = (s, .inl 0) := by
  simp [recvOneP, hx, hp]

/-- a one-shot source is taken out of its module's registry before its event is handed over, so it fires at most once -/
theorem C03_oneshot_removed_first (s : St) (i : SrcId) (x : Src) (hx : s.srcs[i]? = some x) (hp : x.polled = true) (ho : x.oneshot = true) :
    runP (recvOneP (.src i)) s =
      runP (do pushEvtP x.owner { kind := x.kind, key := x.key, src := some i }; pure 1) (removeSrc s x.owner i) := by
  simp [recvOneP, hx, hp, ho]

/-- the event goes to the module that registered the source, carrying the user data given at registration
(`C13_enqueued_in_arrival_order` gives the stamped user data) -/
theorem C03_event_goes_to_owner (s : St) (i : SrcId) (x : Src) (hx : s.srcs[i]? = some x) (hp : x.polled = true) (ho : x.oneshot = false) :
    runP (recvOneP (.src i)) s = runP (do pushEvtP x.owner { kind := x.kind, key := x.key, src := some i }; pure 1) s := by
  simp [recvOneP, hx, hp, ho]

/-- the blocking loop keeps receiving only while no quit was requested and some module is RUNNING -/
theorem C03_loop_exit_conditions (n : Nat) (s : St) (c : Ctx) (hc : s.ctx = some c) (h : c.quit = true ∨ c.running = 0) :
    runP (loopBody c.id (n + 1)) s = (s, .inl ()) := by
  unfold loopBody
  rcases h with h | h <;> simp [hc, h]

/-- a quit request is recorded with exactly the requested code (an 8 bit value) and nothing else changes -/
theorem C03_quit_records_code (s : St) (c : Ctx) (code : Nat) (hm : mctx s = some c) (hl : c.state = .looping) :
    runP (apiQuit code) s = (s.updCtx (fun c => { c with quit := true, quitCode := code % 256 }), .inl 0) := by
  simp [apiQuit, hm, hl]

/-- driving the context through dispatch uses the very same three programs as the blocking loop:
the first call starts (unless the context is being torn down or its loop is just being stopped: then it is refused),
a call with a quit request pending (or no RUNNING module) stops, every other call receives -/
theorem C03_dispatch_is_the_loop_unrolled (s : St) (c : Ctx) (hm : mctx s = some c) :
    (c.state = .idle → c.destroying = false → c.stopping = false → runP apiDispatch s = runP loopStartP s) ∧
    (c.state = .idle → (c.destroying = true ∨ c.stopping = true) → Refuses apiDispatch s EINVAL) ∧
    (c.state = .looping → (c.quit = true ∨ c.running = 0) → runP apiDispatch s = runP (loopStopP c.id) s) ∧
    (c.state = .looping → c.quit = false → c.running ≠ 0 →
      runP apiDispatch s = runP (do let b ← nextBatch; recvEventsP b) s) := by
  refine ⟨fun h1 h2 h3 => ?_, fun h1 h2 => ?_, fun h1 h2 => ?_, fun h1 h2 h3 => ?_⟩
  · simp [apiDispatch, hm, h1, h2, h3]
  · rcases h2 with h2 | h2 <;> simp [Refuses, apiDispatch, hm, h1, h2]
  · rcases h2 with h2 | h2 <;> simp [apiDispatch, hm, h1, h2]
  · simp [apiDispatch, hm, h1, h2, h3]

/-- the `errno` line of a script changes nothing but the errno cell -/
theorem C03_errno_line_only_sets_errno (c : Cfg) (e : Nat) : step c (.errno e) = { c with st := { c.st with errno := e } } := rfl


/-- **A one-shot subscription fires at most once** (D-03c).  Messages are matched against subscriptions when they are
published; a message is dropped when it is read exactly if the subscription it was matched by is one-shot and has left
the module's table meanwhile (it fired, or was removed); consuming a one-shot subscription takes it out of the table. -/
theorem C03_oneshot_subscription_expires (s : St) (md : Mod) (msg : Msg) :
    oneshotExpired s md msg = true ↔
      ∃ i src, msg.sub = some i ∧ s.srcs[i]? = some src ∧ src.oneshot = true ∧ i ∉ md.subs := by
  unfold oneshotExpired
  constructor
  · intro h
    cases hs : msg.sub with
    | none => simp [hs] at h
    | some i =>
      cases hx : s.srcs[i]? with
      | none => simp [hs, hx] at h
      | some src =>
        simp [hs, hx] at h
        exact ⟨i, src, rfl, hx, h.1, by simpa using h.2⟩
  · rintro ⟨i, src, h1, h2, h3, h4⟩
    simp [h1, h2, h3, h4]

/-- removing a subscription (what consuming a one-shot one does) takes it out of the module's table: every later message
that had been matched by it finds it expired -/
theorem C03_consumed_oneshot_is_expired (s : St) (m : ModId) (md : Mod) (i : SrcId) (src : Src) (msg : Msg)
    (hm : s.mods[m]? = some md) (hs : msg.sub = some i) (hi : s.srcs[i]? = some src) (ho : src.oneshot = true) :
    ∃ md', (s.updMod m fun md => { md with srcs := md.srcs.filter (· != i), subs := md.subs.filter (· != i) }).mods[m]? = some md' ∧
      i ∉ md'.subs :=
  ⟨_, updMod_self _ hm, by simp⟩

/-- task sources (and thresholds) are one-shot whatever flags they were registered with: the registry forces the flag, so
`C03_oneshot_removed_first` applies to every task event — a finished task is handed over once and its source is gone -/
theorem C03_task_sources_are_oneshot (x : Src) (h : x.kind = .task ∨ x.kind = .thresh) : (forceOneshot x).oneshot = true := by
  unfold forceOneshot
  rcases h with h | h <;> simp [h]

/-- tie A: the guard prefixes of the entry points this property is about, re-extracted from the source on every run,
are the ones the model transcribes (`Lm.Inst.CoreTie`) -/
theorem C03_guards_in_source :
    Lm.Inst.CoreTie.slice Lm.Generated.CoreGuards.guards ["m_ctx_loop", "m_ctx_dispatch", "m_ctx_quit"] = Lm.Inst.CoreTie.slice Lm.Inst.CoreTie.expected ["m_ctx_loop", "m_ctx_dispatch", "m_ctx_quit"] := rfl

end Lm.Props.C03
