import Lm.Inst.CoreTie
import Lm.Props.C02
/-! # C08 — Messages to one module arrive in send order; poison pill is ordered too

The mailbox of a module is a FIFO: sends append at the end (`C02_eligible_gets_one_copy`), the loop takes the
head (`recv_events`), the final flush walks it front to back.  Pipe FIFO order itself is the kernel's. -/
namespace Lm.Props.C08
open Lm.Core

/-- two consecutive sends to the same module end up in the mailbox in that order, behind what was already there -/
theorem C08_sends_keep_order (s : St) (m1 m2 : Msg) (k1 k2 : TellKey) (r : ModId) (md : Mod) (q : List Msg)
    (hm : s.mods[r]? = some md) (he : md.state = .running ∨ md.state = .paused) (hp : md.pipe = some q)
    (hroom : q.length + 1 + md.pipeSkip < pipeCap) :
    ∃ c1 c2 md', (tellIf (tellIf s m1 k1 r) m2 k2 r).mods[r]? = some md' ∧ md'.pipe = some (q ++ [c1, c2]) ∧
      c1.payload = m1.payload ∧ c2.payload = m2.payload :=
  ⟨_, _, _, tells_append r [(m1, k1), (m2, k2)] s md q hm he hp (show q.length + 2 + md.pipeSkip ≤ pipeCap by omega), rfl, rfl, rfl⟩

/-- the flush at loop stop hands the handler the messages that precede a pill, in mailbox order; the pill and
everything behind it are not delivered -/
theorem C08_flush_prefix_in_order (q : List Msg) :
    q = q.takeWhile (fun x => !x.pill) ++ q.dropWhile (fun x => !x.pill) ∧
    (∀ x ∈ q.takeWhile (fun x => !x.pill), x.pill = false) ∧
    (∀ x, (q.dropWhile (fun x => !x.pill)).head? = some x → x.pill = true) := by
  refine ⟨List.takeWhile_append_dropWhile.symm, fun x hx => ?_, fun x hx => ?_⟩
  · simpa using List.all_eq_true.mp List.all_takeWhile x hx
  · have := List.head?_dropWhile_not (fun x : Msg => !x.pill) q
    rw [hx] at this
    simpa using this

/-- the one-shot rule applied by the final flush (D-03c) only ever drops messages: what is handed over is a subsequence of the
messages in front of the pill, so mailbox order is kept -/
theorem C08_flush_keeps_order (m : ModId) : ∀ (pre : List Msg) (s : St), (flushKeep m pre s).Sublist pre
  | [], _ => by simp [flushKeep]
  | x :: xs, s => by
    unfold flushKeep
    split
    · split
      · exact List.Sublist.cons _ (C08_flush_keeps_order m xs _)
      · exact List.Sublist.cons_cons _ (C08_flush_keeps_order m xs _)
    · exact List.Sublist.cons_cons _ (C08_flush_keeps_order m xs _)

/-- a pill sent to a RUNNING module is appended behind every earlier message, like any other message -/
theorem C08_pill_is_ordered (s : St) (m r : ModId) (md : Mod) (q : List Msg)
    (hm : (s.updMod m fun x => { x with sent := x.sent + 1 }).mods[r]? = some md) (he : md.state = .running) (hp : md.pipe = some q)
    (hroom : q.length + md.pipeSkip < pipeCap) :
    ∃ c md', (tellSystem s (some r) (some m) T_POISONPILL true).mods[r]? = some md' ∧ md'.pipe = some (q ++ [c]) ∧ c.pill = true := by
  unfold tellSystem tellPubsub
  exact ⟨_, _, Lm.Props.C02.C02_eligible_gets_one_copy _ _ .direct r md q hm (Or.inl he) hp hroom, rfl, rfl⟩


/-- **Publications reach a subscriber in the order in which they were published**: two consecutive `m_mod_ps_publish` calls on a
topic that a RUNNING or PAUSED module is subscribed to append their copies to its mailbox in that order, behind what was there -/
theorem C08_publications_keep_order (s : St) (m1 m2 : Msg) (t : String) (h1 : m1.topic = some t) (h2 : m2.topic = some t)
    (k : ModId) (md : Mod) (sub : SrcId) (q : List Msg)
    (hm : s.mods[k]? = some md) (hk : k ∈ s.tableOrder) (he : md.state = .running ∨ md.state = .paused)
    (hf : fetchSub s md t = some sub) (hp : md.pipe = some q) (hroom : q.length + 1 + md.pipeSkip < pipeCap) :
    ∃ c1 c2 md', (tellPubsub (tellPubsub s m1 none) m2 none).mods[k]? = some md' ∧ md'.pipe = some (q ++ [c1, c2]) ∧
      c1.payload = m1.payload ∧ c2.payload = m2.payload :=
  ⟨_, _, _, publishes_append t k sub [m1, m2] s md q (by simp [h1, h2]) hm hk he hf hp
    (show q.length + 2 + md.pipeSkip ≤ pipeCap by omega), rfl, rfl, rfl⟩

/-- tie A: the guard prefixes of the entry points this property is about, re-extracted from the source on every run,
are the ones the model transcribes (`Lm.Inst.CoreTie`) -/
theorem C08_guards_in_source :
    Lm.Inst.CoreTie.slice Lm.Generated.CoreGuards.guards ["m_mod_ps_poisonpill", "m_mod_ps_tell", "m_mod_ps_publish"] = Lm.Inst.CoreTie.slice Lm.Inst.CoreTie.expected ["m_mod_ps_poisonpill", "m_mod_ps_tell", "m_mod_ps_publish"] := rfl

end Lm.Props.C08
