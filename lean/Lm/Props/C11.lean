import Lm.Generated.Bst
import Lm.Struct.Bst
import Lm.Inst.Bst
import Lm.Inv.BstRun
/-!
# C11 — Ordered set (BST): set semantics, sorted iteration, right destructor target

Property theorems only (helper lemmas: `Lm.Inv.Bst`, `Lm.Inv.BstItr`, `Lm.Inv.BstRun`).  Everything
is stated for an arbitrary comparator `cmp` with `TotalOrderCmp cmp` (sign-antisymmetric, `≤`
transitive, `cmp a a = 0`); `Lm.Inst.Bst` proves that hypothesis for the default comparator as it is
regenerated from `Lib/structs/bst.c` on every run (tie A) and for the harness's user comparator.
The model (`Lm.Struct.Bst`) is tied to the compiled library by the correspondence check (tie B).
No theorem bounds the size of the set, the length of a script or the insertion order.
-/
namespace Lm.Props.C11
open Lm.Struct.Bst Lm.Struct.Bst.Tree Lm.Inst.Bst

/-! ## The default comparator (tie A: obligation on the regenerated `ptrcmp`) -/

/-- `ptrcmp`, as translated from the source, is a total-order comparator on all 2^64 × 2^64 pairs
of addresses (false for the pointer-difference-truncated-to-`int` version: D-11b). -/
theorem C11_ptrcmp_total : TotalOrderCmp defaultCmp := defaultCmp_total

/-- With the default comparator distinct pointers are always distinct elements, and they are
ordered as unsigned addresses however far apart they are. -/
theorem C11_ptrcmp_distinct_and_ordered {a b : Val} (ha : a < 2 ^ 64) (hb : b < 2 ^ 64) :
    (defaultCmp a b = 0 ↔ a = b) ∧ (defaultCmp a b < 0 ↔ a < b) := by
  rw [defaultCmp_eq ha hb]; exact threeWay_sign a b

/-! ## Every script: the invariant -/

/-- After any script (any sequence of new/ins/rm/find/len/clear/free/trav/iterator calls, from the
initial state) the model never dereferenced NULL or a dangling pointer (`fault = false`), the set is
a search tree w.r.t. `cmp`, `len` is exact, node identities are distinct, and a live iterator sits
at a position of the in-order sequence (`ItAt`). -/
theorem C11_invariant {cmp} (h : TotalOrderCmp cmp) (ops : List Op) : StInv cmp (final cmp {} ops) :=
  final_inv h ops (StInv.init cmp)

/-- In-order traversal is strictly ascending, `m_bst_len` is exact — after every script. -/
theorem C11_sorted_and_len {cmp} (h : TotalOrderCmp cmp) (ops : List Op) (b : Bst)
    (hb : (final cmp {} ops).set = some b) :
    Ascending cmp b.root.inorder ∧ b.len = b.root.inorder.length ∧ b.root.inorder.Nodup := by
  have hi := (C11_invariant h ops).set b hb
  have ha := (ordered_iff_ascending h _).mp hi.ord
  exact ⟨ha, by rw [inorder_length]; exact hi.len, ascending_nodup h ha⟩

/-- `len` reports exactly the number of elements after every script. -/
theorem C11_len_exact {cmp} (h : TotalOrderCmp cmp) (ops : List Op) (b : Bst)
    (hb : (final cmp {} ops).set = some b) :
    (step cmp (final cmp {} ops) .len).2 = [.ret (b.root.inorder.length : Nat)] := by
  have := (C11_sorted_and_len h ops b hb).2.1
  simp [step, hb, this]

/-! ## insert / find / remove on a set satisfying the invariant -/

/-- `m_bst_insert` succeeds iff no element comparing equal is present; otherwise `-EEXIST` (-17)
and nothing changes.  On success exactly `v` is added. -/
theorem C11_insert {cmp} (h : TotalOrderCmp cmp) {b : Bst} (hi : SetInv cmp b) {v : Val} (hv : v ≠ 0) :
    ((∃ y ∈ b.root.inorder, cmp v y = 0) → bstInsert cmp b v = (b, -17)) ∧
    ((∀ y ∈ b.root.inorder, cmp v y ≠ 0) → ∃ b' X Y, bstInsert cmp b v = (b', 0) ∧
        b.root.inorder = X ++ Y ∧ b'.root.inorder = X ++ v :: Y ∧ b'.len = b.len + 1 ∧ SetInv cmp b') :=
  bstInsert_spec h hi hv

/-- `m_bst_find` returns exactly the element comparing equal to the key (there is at most one). -/
theorem C11_find {cmp} (h : TotalOrderCmp cmp) {b : Bst} (hi : SetInv cmp b) (v y : Val) :
    (bstFind cmp b v = some y ↔ v ≠ 0 ∧ y ∈ b.root.inorder ∧ cmp v y = 0) ∧
    (∀ y', y ∈ b.root.inorder → y' ∈ b.root.inorder → cmp v y = 0 → cmp v y' = 0 → y = y') :=
  ⟨bstFind_spec h hi v y, fun _ hy hy' he he' => equal_unique h hi.ord hy hy' he he'⟩

/-- `m_bst_remove`: `-ENOENT` (-2) without effect when nothing compares equal; otherwise exactly the
equal element `y` leaves the set, the destructor (if any) is called exactly once, with `y`, the
length drops by one and the invariant is kept. -/
theorem C11_remove {cmp} (h : TotalOrderCmp cmp) {b : Bst} (hi : SetInv cmp b) {v : Val} (hv : v ≠ 0) (hl : b.len ≠ 0) :
    ((∀ y ∈ b.root.inorder, cmp v y ≠ 0) → bstRemove cmp b v = (b, [], -2)) ∧
    (∀ y ∈ b.root.inorder, cmp v y = 0 → ∃ b' X Y,
        bstRemove cmp b v = (b', (if b.dtor then [Ev.dtor y] else []), 0) ∧
        b.root.inorder = X ++ y :: Y ∧ b'.root.inorder = X ++ Y ∧ b'.len = b.len - 1 ∧ SetInv cmp b') := by
  obtain ⟨h1, h2⟩ := bstRemove_spec h hi hv hl
  refine ⟨h1, fun y hy he => ?_⟩
  obtain ⟨b', X, Y, e, c0, c1, l, _, inv⟩ := h2 y hy he
  refine ⟨b', X, Y, ?_, c0, c1, l, inv⟩
  rw [e]; cases b.dtor <;> simp [dtorEvs]

/-! ## Traversals -/

/-- The three traversals hand the callback the pre-order, in-order and post-order sequence of one and the same
tree; all three are permutations of the content; in-order is strictly ascending. -/
theorem C11_traversals {cmp} (h : TotalOrderCmp cmp) {b : Bst} (hi : SetInv cmp b) :
    bstTraverse b .pre (fun _ => 0) = (b.root.preorder, 0) ∧
    bstTraverse b .inord (fun _ => 0) = (b.root.inorder, 0) ∧
    bstTraverse b .post (fun _ => 0) = (b.root.postorder, 0) ∧
    b.root.preorder.Perm b.root.inorder ∧ b.root.postorder.Perm b.root.inorder ∧
    Ascending cmp b.root.inorder := by
  refine ⟨by simp [bstTraverse, travPre_eq, visit_zero], by simp [bstTraverse, travIn_eq, visit_zero], by simp [bstTraverse, travPost_eq, visit_zero],
    preorder_perm _, postorder_perm _, (ordered_iff_ascending h _).mp hi.ord⟩

/-- Pre-order and in-order of a set determine its post-order: two trees with duplicate-free
content that agree on the first two traversals agree on the third (what "consistent with one
binary search tree" means for the three observed sequences). -/
theorem C11_traversals_one_tree (t1 t2 : Tree) (hn : t1.inorder.Nodup) (hp : t1.preorder = t2.preorder)
    (hin : t1.inorder = t2.inorder) : t1.postorder = t2.postorder :=
  postorder_determined t1 t2 hn hp hin

/-- A callback that stops a traversal has been given a prefix of the full sequence; the return
value is 0 for a positive stop code and the code itself for a negative one. -/
theorem C11_traverse_stop (b : Bst) (o : Order) (cb : Nat → Int) :
    ∃ p s, (bstTraverse b o cb).1 = p ∧
      (match o with | .pre => b.root.preorder | .inord => b.root.inorder | .post => b.root.postorder) = p ++ s ∧
      (bstTraverse b o cb).2 ≤ 0 := by
  have hret : (bstTraverse b o cb).2 ≤ 0 := by simp only [bstTraverse]; split <;> omega
  cases o
  all_goals
    simp only [bstTraverse, travPre_eq, travIn_eq, travPost_eq] at hret ⊢
    obtain ⟨p, s, e, f, _⟩ := visit_prefix cb _ []
    exact ⟨p, s, by simpa using e, f, hret⟩

/-! ## Iterator -/

/-- A new iterator stands on the smallest element (NULL for an empty set). -/
theorem C11_itr_new {cmp} {b : Bst} (hi : SetInv cmp b) :
    (b.len = 0 → itrNew b = { set := b, itr := none }) ∧
    (b.len ≠ 0 → ∃ it, itrNew b = { set := b, itr := some it } ∧ ItAt b.root it [] b.root.inorderN ∧ it.removed = false) := by
  obtain ⟨oi, e, p1, p2⟩ := itrNew_pos hi.len hi.nodup
  refine ⟨fun h0 => ?_, fun h0 => ?_⟩
  · rw [e, p1 (by rw [hi.root_nil h0]; rfl)]
  · obtain ⟨it, rfl, hat⟩ := p2 fun e => h0 (by rw [hi.len, ← inorderN_length, e]; rfl)
    exact ⟨it, e, hat⟩

/-- `m_bst_itr_next` from any position `B | A` of the in-order sequence: no fault, the set is
untouched, the iterator moves to the element following the position (`A.tail`; `A` itself when the
current element has just been removed through the iterator) and is freed exactly when there is none. -/
theorem C11_itr_next {cmp} {b : Bst} (hi : SetInv cmp b) {it : Itr} {B A : List (Nat × Val)} (hat : ItAt b.root it B A) :
    let A₁ := if it.removed then A else A.tail
    let B₁ := if it.removed then B else B ++ A.take 1
    ∃ oi, itrNext b it = { set := b, itr := oi } ∧ (A₁ = [] → oi = none) ∧
      (A₁ ≠ [] → ∃ it', oi = some it' ∧ ItAt b.root it' B₁ A₁ ∧ it'.removed = false) :=
  itrNext_spec hi.nodup hat

/-- `m_bst_itr_get_data` returns the element at the position (NULL right after a removal). -/
theorem C11_itr_get {cmp} {b : Bst} (hi : SetInv cmp b) {it : Itr} {B A : List (Nat × Val)} (hat : ItAt b.root it B A) :
    itrGet b it = some (if it.removed then none else A.head?.map Prod.snd) :=
  itrGet_spec hi.nodup hat

/-- `m_bst_itr_remove` removes exactly the current element `a`, the destructor receives exactly
`a`, once; the rest of the sequence (`B` before, `A'` after, as values) is unchanged, the iterator
keeps its position and the invariant holds for the new set.  A second call without `next` is
refused (`-EINVAL`) without effect. -/
theorem C11_itr_remove {cmp} (h : TotalOrderCmp cmp) {b : Bst} (hi : SetInv cmp b) {it : Itr} {B A : List (Nat × Val)}
    (hat : ItAt b.root it B A) :
    (it.removed = true → itrRemove b it = { set := b, itr := some it, ret := -22 }) ∧
    (it.removed = false → ∃ a A' b' A'', A = a :: A' ∧
      itrRemove b it = { set := b', itr := some { it with removed := true },
                         evs := (if b.dtor then [Ev.dtor a.2] else []), ret := 0 } ∧
      b'.root.inorder = B.map Prod.snd ++ A'.map Prod.snd ∧ A''.map Prod.snd = A'.map Prod.snd ∧
      ItAt b'.root { it with removed := true } B A'' ∧ SetInv cmp b' ∧ b'.len = b.len - 1) := by
  refine ⟨fun hr => itrRemove_removed hr, fun hr => ?_⟩
  obtain ⟨a, A', rm, A'', e0, e1, e4, hat', sp⟩ := itrRemove_spec hi.nodup hat hr
  refine ⟨a, A', (applyRm b rm).1, A'', e0, ?_, ?_, e4, hat', (hi.rm h sp).inv, rfl⟩
  · rw [e1]; cases hd : b.dtor <;> simp [dtorEv, hd]
  · show rm.tree.inorder = _
    rw [← inorderN_map_snd, hat'.1, List.map_append, e4]

/-- Iterating over the whole set with the iterator, removing any subset of the elements on the way
(`rmv` decides per element): every element is visited exactly once, in strictly ascending order;
exactly the chosen elements are destroyed (each once, with its own value) and exactly the others
remain; no fault; the invariant holds afterwards. -/
theorem C11_iterate_with_removal {cmp} (h : TotalOrderCmp cmp) {b : Bst} (hi : SetInv cmp b) (rmv : Val → Bool) :
    ∃ b', iterLoop rmv b.len b (itrNew b).itr [] [] =
        (b', b.root.inorder, (if b.dtor then (b.root.inorder.filter rmv).map Ev.dtor else []), false) ∧
      (itrNew b).fault = false ∧ Ascending cmp b.root.inorder ∧
      b'.root.inorder = b.root.inorder.filter (fun x => !rmv x) ∧ SetInv cmp b' := by
  obtain ⟨oi, e, pos⟩ := itrNew_pos hi.len hi.nodup
  obtain ⟨b', c1, c2, c3, _⟩ := iterLoop_spec h rmv b.len b oi [] b.root.inorderN [] [] hi rfl pos
    (by rw [inorderN_length, hi.len]; omega)
  refine ⟨b', ?_, by rw [e], (ordered_iff_ascending h _).mp hi.ord, by simpa using c2, c3⟩
  rw [e]; simp only
  rw [c1]; simp [dtorEvs]

/-! ## Destructor: exactly once, on the element actually removed -/

/-- `m_bst_clear`: every element is destroyed exactly once (in ascending order), with its own
value; the set is empty afterwards; on an empty set `-EINVAL`, nothing is called. -/
theorem C11_clear {cmp} (h : TotalOrderCmp cmp) {b : Bst} (hi : SetInv cmp b) :
    (b.len = 0 → bstClear b = (b, [], -22, false)) ∧
    (b.len ≠ 0 → bstClear b =
      ({ b with root := .nil, len := 0 }, (if b.dtor then b.root.inorder.map Ev.dtor else []), 0, false)) := by
  obtain ⟨h1, h2⟩ := bstClear_spec h hi
  exact ⟨h1, fun h0 => by rw [h2 h0]; simp [dtorEvs]⟩

/-- `m_bst_free` (script level): the same destructor calls as `clear`, then the handle is NULL. -/
theorem C11_free {cmp} (h : TotalOrderCmp cmp) {s : St} (hi : StInv cmp s) (b : Bst) (hb : s.set = some b) :
    (step cmp s .free).1 = { set := none, itr := none, fault := false } ∧
    (step cmp s .free).2 = (if b.dtor then b.root.inorder.map Ev.dtor else []) ++ [.ret 0, .handle false] := by
  obtain ⟨_, _, e, _, _⟩ := bstClear_moved h (hi.set b hb)
  cases hd : b.dtor <;> simp [step, hb, e, hi.nofault, dtorEvs, hd]

/-- One script line from any reachable state: the values handed to the destructor are pairwise
distinct, each was an element of the set before the call and none is an element afterwards — the
destructor never runs on an element that stays in the set, and never twice on one. -/
theorem C11_dtor_target_step {cmp} (h : TotalOrderCmp cmp) (ops : List Op) (op : Op) :
    let s := final cmp {} ops
    let r := step cmp s op
    (dtorVals r.2).Nodup ∧ ∀ v ∈ dtorVals r.2, v ∈ content s ∧ v ∉ content r.1 := by
  intro s r
  have hi : StInv cmp s := C11_invariant h ops
  by_cases hop : ∃ d, op = .new d
  · obtain ⟨d, rfl⟩ := hop
    simp [r, step, dtorVals]
  · -- `d`: the destructor flag of the set, if there is a set
    obtain ⟨d, hd⟩ : ∃ d, ∀ b, s.set = some b → b.dtor = d := by
      cases hs : s.set with
      | none => exact ⟨false, fun _ e => by cases e⟩
      | some b => exact ⟨b.dtor, fun _ e => by cases e; rfl⟩
    obtain ⟨_, gone, e, hp⟩ := (step_spec h hi op).2 (fun d e => hop ⟨d, e⟩) d hd
    cases d with
    | false => simp [r, e]
    | true =>
      have hcn : (content s).Nodup := by
        unfold content; split
        · exact ascending_nodup h ((ordered_iff_ascending h _).mp (hi.set _ ‹_›).ord)
        · exact .nil
      -- only `ins` inserts, and it destroys nothing
      have hins : insertedBy op r.2 = [] ∨ dtorVals r.2 = [] := by
        cases op with
        | ins v => cases hs : s.set <;> simp [r, step, hs]
        | _ => exact .inl rfl
      rcases hins with h0 | h0
      · rw [h0, List.append_nil] at hp
        obtain ⟨_, n2, n3⟩ := List.nodup_append.mp (hp.nodup_iff.mpr hcn)
        rw [show dtorVals r.2 = gone from e]
        exact ⟨n2, fun v hv => ⟨hp.subset (List.mem_append.mpr (Or.inr hv)), fun hm => n3 v hm v hv rfl⟩⟩
      · simp [h0]

/-- Whole scripts on a set with a destructor (`new 1` followed by any lines that do not create
another set): the elements still in the set together with all values the destructor has received
are, as multisets, exactly the elements that were successfully inserted — every element that left
the set (remove, iterator-remove, clear, free) was destroyed exactly once, and no other value ever. -/
theorem C11_dtor_exactly_once {cmp} (h : TotalOrderCmp cmp) (ops : List Op) (hnew : ∀ d, Op.new d ∉ ops) :
    let s0 : St := (step cmp {} (.new true)).1
    (content (final cmp s0 ops) ++ allDtors (trace cmp s0 ops)).Perm (allInserted (trace cmp s0 ops)) := by
  intro s0
  obtain ⟨_, gone, e, hp⟩ := trace_conserves h ops s0 (.new cmp rfl true) hnew true
    (fun b hb => by cases hb; rfl)
  rw [show allDtors _ = gone from e]
  exact hp

/-- Without a destructor nothing is ever called. -/
theorem C11_no_dtor_no_calls {cmp} (h : TotalOrderCmp cmp) (ops : List Op) (hnew : ∀ d, Op.new d ∉ ops) :
    allDtors (trace cmp (step cmp {} (.new false)).1 ops) = [] := by
  obtain ⟨_, _, e, _⟩ := trace_conserves h ops _ (.new cmp (s := {}) rfl false) hnew false
    (fun b hb => by cases hb; rfl)
  exact e

/-! ## Non-vacuity: concrete comparators meet the hypothesis, concrete scripts exercise the cases -/

example : TotalOrderCmp userCmp := userCmp_total
example : TotalOrderCmp defaultCmp := C11_ptrcmp_total

/-- 0x1_0000_0000 and 0x2_0000_0000 (D-11b) are distinct, ordered elements for the default comparator -/
example : defaultCmp 0x100000000 0x200000000 < 0 ∧ defaultCmp 0x200000000 0x100000000 > 0 ∧
    defaultCmp 10 2147483658 < 0 := by decide

/-- D-11a: removing a node with two children hands the removed value (20) to the destructor, the
successor's value (30) moves up and stays; `clear` then destroys 10 and 30 once each. -/
def demo : List Op := [.new true, .ins 20, .ins 10, .ins 30, .rm 20, .clear]

example : (trace userCmp {} demo).map (fun p => dtorVals p.2) = [[], [], [], [], [20], [10, 30]] := by decide
example : (final userCmp {} demo).fault = false := by decide

/-- iterating over 7 elements, removing the 2nd (two children) and the 4th (the root, two
children): every element is visited once, ascending -/
def demoIt : List Op := [.new true, .ins 40, .ins 20, .ins 60, .ins 10, .ins 30, .ins 50, .ins 70]

example : (match (final userCmp {} demoIt).set with
    | some b => (iterLoop (fun x => x == 20 || x == 40) b.len b (itrNew b).itr [] []).2.1
    | none => []) = [10, 20, 30, 40, 50, 60, 70] := by decide

end Lm.Props.C11
