import Lm.Inst.CoreTie
import Lm.Inv.CoreGuards
/-! # C13 — Priorities and batching decide when a handler runs and with which events -/
namespace Lm.Props.C13
open Lm.Core

/-- does this event, arriving for a module whose queue (after enqueueing) is `q`, cause an invocation?
(the decision table of `push_evt`) -/
def fires (role : Role) (prio : Option Prio) (q : List Evt) (inf : Bool) (len : Nat) : Bool :=
  !q.isEmpty &&
    !(role == .user && prio == some .low) &&
      ((role == .batchTimer) || (role == .user && prio == some .high) || (!inf && decide (q.length ≥ len)))

/-- **The decision table.**  `push_evt` invokes the handler exactly when `fires` says so, hands it the whole
accumulated queue in arrival order (new event last) and empties the queue; otherwise it returns without
invoking anything and the event (if it is a user event) stays queued. -/
theorem C13_decision_table (s : St) (m : ModId) (e : Evt) (md1 : Mod)
    (hm1 : (pushEvtStore s m e).mods[m]? = some md1) :
    (fires (srcRole s e) (srcPrio s e) md1.batch md1.batchInf md1.batchLen = true →
      ∃ k, runP (pushEvtP m e) s =
        (setCurrOf m (some m) ((pushEvtStore s m e).updMod m fun md => { md with batch := [] }),
         .inr (.evt (md1.recvs.headD 0), m, md1.batch, k))) ∧
    (fires (srcRole s e) (srcPrio s e) md1.batch md1.batchInf md1.batchLen = false →
      runP (pushEvtP m e) s = (pushEvtStore s m e, .inl ())) := by
  have hmm := updMod_self (fun md => { md with batch := [] }) hm1
  unfold pushEvtP fires
  simp only [runP_getSt_bind, runP_modify_bind]
  by_cases hlow : (srcRole s e == .user && srcPrio s e == some .low) = true
  · simp [hlow]
  · simp only [hlow, Bool.false_eq_true, if_false, runP_getSt_bind, hm1]
    by_cases hemp : md1.batch.isEmpty = true
    · simp [hemp]
    · simp only [hemp, Bool.false_eq_true, if_false, Bool.not_false, Bool.true_and]
      by_cases hf : ((srcRole s e == .batchTimer) || (srcRole s e == .user && srcPrio s e == some .high) ||
          (!md1.batchInf && decide (md1.batch.length ≥ md1.batchLen))) = true
      · simp only [hf, if_true, runP_modify_bind, callPubsubCb, hemp, Bool.false_eq_true, if_false, runP_getSt_bind, hmm]
        exact ⟨fun _ => ⟨_, rfl⟩, fun h => by simp at h⟩
      · simp only [hf, Bool.false_eq_true, if_false]
        exact ⟨fun h => by simp at h, fun _ => rfl⟩

/-- a user event is appended at the end of the module's queue (arrival order), carrying the user data given at registration -/
theorem C13_enqueued_in_arrival_order (s : St) (m : ModId) (md : Mod) (e : Evt) (hm : s.mods[m]? = some md)
    (hu : srcRole s e = .user) :
    (pushEvtStore s m e).mods[m]? = some { md with batch := md.batch ++ [stampEvt s e] } ∧
    (stampEvt s e).kind = e.kind ∧ (stampEvt s e).msg = e.msg ∧ (stampEvt s e).src = e.src ∧
    (∀ i x, e.src = some i → s.srcs[i]? = some x → (stampEvt s e).userdata = x.userptr) := by
  refine ⟨?_, ?_, ?_, ?_, fun i x hi hx => by unfold stampEvt; simp [hi, hx]⟩
  · unfold pushEvtStore
    simp only [hu, bne_self_eq_false, Bool.false_eq_true, if_false]
    exact updMod_self _ hm
  all_goals unfold stampEvt; split <;> rfl

/-- high-priority events (descriptor events always are) cause an invocation at once -/
theorem C13_high_fires (q : List Evt) (inf : Bool) (len : Nat) (h : q ≠ []) : fires .user (some .high) q inf len = true := by
  simp [fires, List.isEmpty_eq_false_iff.mpr h]

/-- low-priority events never cause an invocation by themselves -/
theorem C13_low_never_fires (q : List Evt) (inf : Bool) (len : Nat) : fires .user (some .low) q inf len = false := by
  simp [fires]

/-- a normal-priority event fires exactly when the accumulated count has reached the batch size
(a pending batch timeout without size makes the size infinite) -/
theorem C13_norm_fires_iff (p : Option Prio) (hp : p = some .norm ∨ p = none) (q : List Evt) (inf : Bool) (len : Nat) (h : q ≠ []) :
    fires .user p q inf len = (!inf && decide (q.length ≥ len)) := by
  rcases hp with rfl | rfl <;> cases q with
    | nil => simp at h
    | cons x xs => cases inf <;> rfl

/-- with neither a batch size nor a batch timeout configured every normal event is delivered at once -/
theorem C13_default_immediate (p : Option Prio) (hp : p = some .norm ∨ p = none) (q : List Evt) (h : q ≠ []) :
    fires .user p q false 0 = true := by
  rw [C13_norm_fires_iff p hp q false 0 h]; simp

/-- the batch timeout fires with whatever is pending, and only then -/
theorem C13_timeout_fires_iff_pending (q : List Evt) (inf : Bool) (len : Nat) (p : Option Prio) :
    fires .batchTimer p q inf len = !q.isEmpty := by
  cases q <;> simp [fires]

/-- stopping the module discards accumulated events and resets the batching settings -/
theorem C13_stop_resets_batching (md : Mod) : md.reset.batch = [] ∧ md.reset.batchLen = 0 ∧ md.reset.batchInf = false ∧ md.reset.batchTimer = 0 :=
  ⟨rfl, rfl, rfl, rfl⟩

/-- clearing the batch timeout when no size was configured re-enables immediate delivery (the D-13 repair) -/
theorem C13_clearing_timeout_restores_default (md : Mod) (h : md.batchInf = true) :
    (if md.batchInf then { md with batchInf := false, batchLen := 0 } else md).batchInf = false ∧
    (if md.batchInf then { md with batchInf := false, batchLen := 0 } else md).batchLen = 0 := by
  simp [h]


/-- descriptor events are always high priority: the registry forces the priority of a descriptor source whatever was asked
for, so by `C13_high_fires` its event is handed over at once, in front of nothing and behind everything already accumulated -/
theorem C13_descriptor_sources_are_high (x : Src) (h : x.kind = .fd) : (forceHigh x).prio = .high := by
  unfold forceHigh; simp [h]

/-- tie A: the guard prefixes of the entry points this property is about, re-extracted from the source on every run,
are the ones the model transcribes (`Lm.Inst.CoreTie`) -/
theorem C13_guards_in_source :
    Lm.Inst.CoreTie.slice Lm.Generated.CoreGuards.guards ["m_mod_set_batch_size", "m_mod_set_batch_timeout"] = Lm.Inst.CoreTie.slice Lm.Inst.CoreTie.expected ["m_mod_set_batch_size", "m_mod_set_batch_timeout"] := rfl

end Lm.Props.C13
