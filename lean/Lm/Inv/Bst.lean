import Lm.Struct.Bst
/-! Comparators, the search-tree invariant, and what `bst_find`, `insert_node` and `remove_node` do
to the in-order sequence of (node, element) pairs. -/
namespace Lm.Struct.Bst
open Tree

/-- What the set needs of the user's comparator `cmp key elem` (`int`-valued, three-way). -/
structure TotalOrderCmp {α : Type} (cmp : α → α → Int) : Prop where
  refl : ∀ a, cmp a a = 0
  antisymm : ∀ a b, cmp a b < 0 ↔ 0 < cmp b a
  trans : ∀ a b c, cmp a b ≤ 0 → cmp b c ≤ 0 → cmp a c ≤ 0

namespace TotalOrderCmp
variable {α : Type} {cmp : α → α → Int} (h : TotalOrderCmp cmp)
include h

theorem eq_symm {a b : α} (e : cmp a b = 0) : cmp b a = 0 := by
  have h1 := h.antisymm a b; have h2 := h.antisymm b a; omega

theorem lt_of_le_of_le {a b c : α} (h1 : cmp a b ≤ 0) (h2 : cmp b c ≤ 0) (h3 : cmp a b < 0 ∨ cmp b c < 0) :
    cmp a c < 0 := by
  have t := h.trans a b c h1 h2
  by_cases g : cmp a c < 0
  · exact g
  · -- otherwise `c ≤ a`, which closes the cycle `a ≤ b ≤ c ≤ a` and makes both steps equalities
    have e' := h.eq_symm (show cmp a c = 0 by omega)
    have t1 := h.trans c a b (by omega) h1
    have t2 := h.trans b c a h2 (by omega)
    have := h.antisymm b c
    have := h.antisymm a b
    omega

theorem lt_trans {a b c : α} (h1 : cmp a b < 0) (h2 : cmp b c < 0) : cmp a c < 0 :=
  h.lt_of_le_of_le (by omega) (by omega) (.inl h1)

theorem lt_of_eq_of_lt {a b c : α} (h1 : cmp a b = 0) (h2 : cmp b c < 0) : cmp a c < 0 :=
  h.lt_of_le_of_le (by omega) (by omega) (.inr h2)

theorem lt_of_lt_of_eq {a b c : α} (h1 : cmp a b < 0) (h2 : cmp b c = 0) : cmp a c < 0 :=
  h.lt_of_le_of_le (by omega) (by omega) (.inl h1)

theorem gt_iff {a b : α} : 0 < cmp a b ↔ cmp b a < 0 := (h.antisymm b a).symm

theorem comap {β : Type} (f : β → α) : TotalOrderCmp (fun x y => cmp (f x) (f y)) :=
  ⟨fun a => h.refl (f a), fun a b => h.antisymm (f a) (f b), fun a b c => h.trans (f a) (f b) (f c)⟩

end TotalOrderCmp

@[simp] theorem inorderN_map_snd : ∀ t : Tree, t.inorderN.map Prod.snd = t.inorder
  | .nil => rfl
  | .node _ l _ r => by simp [inorderN, inorder, inorderN_map_snd l, inorderN_map_snd r]

@[simp] theorem inorderN_map_fst : ∀ t : Tree, t.inorderN.map Prod.fst = t.ids
  | .nil => rfl
  | .node _ l _ r => by simp [inorderN, ids, inorderN_map_fst l, inorderN_map_fst r]

@[simp] theorem inorder_length : ∀ t : Tree, t.inorder.length = t.size
  | .nil => rfl
  | .node _ l _ r => by simp [inorder, size, inorder_length l, inorder_length r]; omega

@[simp] theorem ids_length : ∀ t : Tree, t.ids.length = t.size
  | .nil => rfl
  | .node _ l _ r => by simp [ids, size, ids_length l, ids_length r]; omega

@[simp] theorem preorder_length : ∀ t : Tree, t.preorder.length = t.size
  | .nil => rfl
  | .node _ l _ r => by simp [preorder, size, preorder_length l, preorder_length r]; omega

theorem inorderN_length (t : Tree) : t.inorderN.length = t.size := by
  rw [← inorder_length, ← inorderN_map_snd, List.length_map]

theorem preorder_perm : ∀ t : Tree, t.preorder.Perm t.inorder
  | .nil => .refl _
  | .node _ l v r => by
    simp only [preorder, inorder]
    exact ((preorder_perm l).append (preorder_perm r)).cons v |>.trans List.perm_middle.symm

theorem postorder_perm : ∀ t : Tree, t.postorder.Perm t.inorder
  | .nil => .refl _
  | .node _ l v r => by
    simp only [postorder, inorder]
    refine (postorder_perm l).append ?_
    exact (List.perm_append_singleton v _).trans ((postorder_perm r).cons v)

theorem isNil_iff (t : Tree) : t.isNil = true ↔ t = .nil := by cases t <;> simp [isNil]

theorem isNil_eq_false {t : Tree} (h : t ≠ .nil) : t.isNil = false :=
  Bool.eq_false_iff.mpr fun e => h ((isNil_iff t).mp e)

theorem rootId_none_iff (t : Tree) : t.rootId = none ↔ t = .nil := by cases t <;> simp [rootId]

theorem size_eq_zero_iff (t : Tree) : t.size = 0 ↔ t = .nil := by
  cases t <;> simp [size]

theorem split_unique {α β} (f : α → β) {a a2 : α} (hf : f a = f a2) : ∀ {B B2 A A2 : List α},
    ((B ++ a :: A).map f).Nodup → B ++ a :: A = B2 ++ a2 :: A2 → B = B2 ∧ a = a2 ∧ A = A2
  | [], [], _, _, _, e => by simpa using e
  | [], b :: B2, A, A2, hn, e => by
    obtain ⟨rfl, rfl⟩ := List.cons.inj e
    simp [hf] at hn
  | b :: B, [], A, A2, hn, e => by
    obtain ⟨rfl, rfl⟩ := List.cons.inj e
    simp [hf] at hn
  | b :: B, b2 :: B2, A, A2, hn, e => by
    obtain ⟨rfl, e'⟩ := List.cons.inj e
    obtain ⟨rfl, h⟩ := split_unique f hf (List.nodup_cons.mp hn).2 e'
    exact ⟨rfl, h⟩

def Ordered (cmp : Val → Val → Int) : Tree → Prop
  | .nil => True
  | .node _ l x r => Ordered cmp l ∧ Ordered cmp r ∧ (∀ y ∈ l.inorder, cmp y x < 0) ∧ (∀ z ∈ r.inorder, cmp x z < 0)

def Ascending (cmp : Val → Val → Int) (l : List Val) : Prop := l.Pairwise (fun a b => cmp a b < 0)

theorem ordered_iff_ascending {cmp} (h : TotalOrderCmp cmp) : ∀ t : Tree, Ordered cmp t ↔ Ascending cmp t.inorder
  | .nil => by simp [Ordered, Ascending, inorder]
  | .node _ l x r => by
    simp only [Ordered, Ascending, inorder, List.pairwise_append, List.pairwise_cons, List.mem_cons]
    rw [ordered_iff_ascending h l, ordered_iff_ascending h r]
    constructor
    · rintro ⟨hl, hr, hlx, hxr⟩
      refine ⟨hl, ⟨hxr, hr⟩, ?_⟩
      intro a ha b hb
      rcases hb with rfl | hb
      · exact hlx a ha
      · exact h.lt_trans (hlx a ha) (hxr b hb)
    · rintro ⟨hl, ⟨hxr, hr⟩, hlr⟩
      exact ⟨hl, hr, fun y hy => hlr y hy x (Or.inl rfl), hxr⟩

theorem ascending_nodup {cmp} (h : TotalOrderCmp cmp) {l : List Val} (ha : Ascending cmp l) : l.Nodup := by
  unfold Ascending at ha
  refine ha.imp ?_
  intro a b hlt e
  subst e
  have := h.refl a
  omega

theorem find_some {cmp} {v y : Val} : ∀ {t : Tree}, find cmp v t = some y → y ∈ t.inorder ∧ cmp v y = 0
  | .nil, h => by simp [find] at h
  | .node _ l x r, h => by
    simp only [find] at h
    split at h
    · cases h; exact ⟨by simp [inorder], by assumption⟩
    · split at h
      · have := find_some (t := r) h; exact ⟨by simp [inorder, this.1], this.2⟩
      · have := find_some (t := l) h; exact ⟨by simp [inorder, this.1], this.2⟩

theorem find_complete {cmp} (h : TotalOrderCmp cmp) {v y : Val} :
    ∀ {t : Tree}, Ordered cmp t → y ∈ t.inorder → cmp v y = 0 → find cmp v t = some y
  | .nil, _, hm, _ => by simp [inorder] at hm
  | .node _ l x r, ho, hm, he => by
    obtain ⟨hol, hor, hlx, hxr⟩ := ho
    simp only [inorder, List.mem_append, List.mem_cons] at hm
    simp only [find]
    rcases hm with hm | rfl | hm
    · have hlt : cmp v x < 0 := h.lt_of_eq_of_lt he (hlx y hm)
      have := find_complete h hol hm he
      rw [if_neg (by omega), if_neg (by omega)]; exact this
    · simp [he]
    · have hlt : cmp x v < 0 := h.lt_of_lt_of_eq (hxr y hm) (h.eq_symm he)
      have hgt := h.gt_iff.mpr hlt
      have := find_complete h hor hm he
      rw [if_neg (by omega), if_pos (by omega)]; exact this

theorem find_eq_none {cmp} {v : Val} {t : Tree} (hno : ∀ y ∈ t.inorder, cmp v y ≠ 0) : find cmp v t = none := by
  cases hf : find cmp v t with
  | none => rfl
  | some y => exact absurd (find_some hf).2 (hno y (find_some hf).1)

theorem find_none {cmp} (h : TotalOrderCmp cmp) {v : Val} {t : Tree} (ho : Ordered cmp t)
    (hf : find cmp v t = none) : ∀ y ∈ t.inorder, cmp v y ≠ 0 := by
  intro y hy he
  rw [find_complete h ho hy he] at hf; cases hf

theorem equal_unique {cmp} (h : TotalOrderCmp cmp) {v y y' : Val} {t : Tree} (ho : Ordered cmp t)
    (hy : y ∈ t.inorder) (hy' : y' ∈ t.inorder) (he : cmp v y = 0) (he' : cmp v y' = 0) : y = y' := by
  have a := find_complete h ho hy he
  have b := find_complete h ho hy' he'
  rw [a] at b; cases b; rfl

theorem insert_none_iff_find {cmp} {n : Nat} {v : Val} : ∀ {t : Tree}, insert cmp n v t = none ↔ (find cmp v t).isSome
  | .nil => by simp [insert, find]
  | .node _ l x r => by
    simp only [insert, find]
    split
    · simp
    · split
      · simp [insert_none_iff_find (t := r)]
      · simp [insert_none_iff_find (t := l)]

theorem insert_inorderN {cmp} {n : Nat} {v : Val} : ∀ {t t' : Tree}, insert cmp n v t = some t' →
    ∃ A B, t.inorderN = A ++ B ∧ t'.inorderN = A ++ (n, v) :: B
  | .nil, t', h => by simp [insert] at h; subst h; exact ⟨[], [], rfl, rfl⟩
  | .node id l x r, t', h => by
    simp only [insert] at h
    split at h
    · cases h
    · split at h
      · obtain ⟨r', hr, rfl⟩ := Option.map_eq_some_iff.mp h
        obtain ⟨A, B, e1, e2⟩ := insert_inorderN hr
        exact ⟨l.inorderN ++ (id, x) :: A, B, by simp [inorderN, e1], by simp [inorderN, e2]⟩
      · obtain ⟨l', hl, rfl⟩ := Option.map_eq_some_iff.mp h
        obtain ⟨A, B, e1, e2⟩ := insert_inorderN hl
        exact ⟨A, B ++ (id, x) :: r.inorderN, by simp [inorderN, e1], by simp [inorderN, e2]⟩

theorem insert_perm {cmp} {n : Nat} {v : Val} {t t' : Tree} (h : insert cmp n v t = some t') :
    t'.inorderN.Perm ((n, v) :: t.inorderN) := by
  obtain ⟨A, B, e1, e2⟩ := insert_inorderN h
  rw [e1, e2]; exact List.perm_middle

theorem insert_mem {cmp} {n : Nat} {v : Val} {t t' : Tree} (h : insert cmp n v t = some t') (z : Val) :
    z ∈ t'.inorder ↔ z = v ∨ z ∈ t.inorder := by
  simpa using ((insert_perm h).map Prod.snd).mem_iff (a := z)

theorem insert_ordered {cmp} (h : TotalOrderCmp cmp) {n : Nat} {v : Val} :
    ∀ {t t' : Tree}, Ordered cmp t → insert cmp n v t = some t' → Ordered cmp t'
  | .nil, t', _, hi => by simp [insert] at hi; subst hi; simp [Ordered, inorder]
  | .node id l x r, t', ho, hi => by
    obtain ⟨hol, hor, hlx, hxr⟩ := ho
    simp only [insert] at hi
    split at hi
    · cases hi
    · rename_i hne
      split at hi
      · rename_i hgt
        obtain ⟨r', hr, rfl⟩ := Option.map_eq_some_iff.mp hi
        refine ⟨hol, insert_ordered h hor hr, hlx, ?_⟩
        intro z hz
        rcases (insert_mem hr z).mp hz with rfl | hz
        · exact h.gt_iff.mp hgt
        · exact hxr z hz
      · obtain ⟨l', hl, rfl⟩ := Option.map_eq_some_iff.mp hi
        refine ⟨insert_ordered h hol hl, hor, ?_, hxr⟩
        intro z hz
        rcases (insert_mem hl z).mp hz with rfl | hz
        · omega
        · exact hlx z hz

/-- Effect of one successful `remove_node` on the in-order sequence of (identity, value) pairs:
the pair `(s, v)` of the node it is applied to disappears; either literally (at most one child: the
node itself is freed), or the *next* node `freed` is freed and its value moves into `s` (two children). -/
def RmSpec (L L' : List (Nat × Val)) (s : Nat) (v : Val) (freed : Nat) : Prop :=
  ∃ B A, L = B ++ (s, v) :: A ∧
    ((L' = B ++ A ∧ freed = s) ∨ (∃ w rest, A = (freed, w) :: rest ∧ L' = B ++ (s, w) :: rest))

theorem RmSpec.wrap {L L' s v f} (h : RmSpec L L' s v f) (P S : List (Nat × Val)) :
    RmSpec (P ++ L ++ S) (P ++ L' ++ S) s v f := by
  obtain ⟨B, A, e, h⟩ := h
  refine ⟨P ++ B, A ++ S, by simp [e], ?_⟩
  rcases h with ⟨e', rfl⟩ | ⟨w, rest, rfl, e'⟩
  · left; simp [e']
  · right; exact ⟨w, rest ++ S, by simp, by simp [e']⟩

theorem RmSpec.vals {L L' s v f} (h : RmSpec L L' s v f) :
    ∃ X Y, L.map Prod.snd = X ++ v :: Y ∧ L'.map Prod.snd = X ++ Y := by
  obtain ⟨B, A, e, h⟩ := h
  refine ⟨B.map Prod.snd, A.map Prod.snd, by simp [e], ?_⟩
  rcases h with ⟨e', _⟩ | ⟨w, rest, rfl, e'⟩ <;> simp [e']

theorem RmSpec.ids {L L' s v f} (h : RmSpec L L' s v f) : (L'.map Prod.fst).Sublist (L.map Prod.fst) ∧ L.length = L'.length + 1 := by
  obtain ⟨B, A, rfl, h⟩ := h
  rcases h with ⟨rfl, rfl⟩ | ⟨w, rest, rfl, rfl⟩ <;> simp <;> omega

theorem removeMinSwapped_spec (x : Val) : ∀ (t : Tree), t ≠ .nil →
    ∃ i m A rm, t.inorderN = (i, m) :: A ∧ removeMinSwapped x t = some (m, rm) ∧ rm.tree.inorderN = A ∧
      rm.dval = x ∧ rm.freed = i
  | .nil, h => absurd rfl h
  | .node id .nil m r, _ => ⟨id, m, r.inorderN, _, by simp [inorderN], rfl, rfl, rfl, rfl⟩
  | .node id (.node i2 l2 v2 r2) v r, _ => by
    obtain ⟨i, m, A, rm, e1, e2, e3, e4, e5⟩ := removeMinSwapped_spec x (.node i2 l2 v2 r2) (by simp)
    refine ⟨i, m, A ++ (id, v) :: r.inorderN, rm.wrapL id v r, ?_, ?_, ?_, e4, e5⟩
    · rw [inorderN, e1]; simp
    · simp [removeMinSwapped, e2]
    · simp [Rm.wrapL, inorderN, e3]

theorem removeNode_spec (id : Nat) (l : Tree) (v : Val) (r : Tree) :
    ∃ rm, removeNode (.node id l v r) = some rm ∧ rm.dval = v ∧
      RmSpec (Tree.node id l v r).inorderN rm.tree.inorderN id v rm.freed := by
  cases l with
  | nil =>
    exact ⟨⟨r, id, v⟩, by simp [removeNode, isNil], rfl, [], r.inorderN, by simp [inorderN], Or.inl ⟨by simp, rfl⟩⟩
  | node li ll lv lr =>
    cases r with
    | nil =>
      exact ⟨⟨.node li ll lv lr, id, v⟩, by simp [removeNode, isNil], rfl, (Tree.node li ll lv lr).inorderN, [],
        by simp [inorderN], Or.inl ⟨by simp, rfl⟩⟩
    | node ri rl rv rr =>
      obtain ⟨i, m, A, rm, e1, e2, e3, e4, e5⟩ := removeMinSwapped_spec v (.node ri rl rv rr) (by simp)
      refine ⟨⟨.node id (.node li ll lv lr) m rm.tree, rm.freed, rm.dval⟩, by simp [removeNode, isNil, e2], e4,
        (Tree.node li ll lv lr).inorderN, (Tree.node ri rl rv rr).inorderN, by simp [inorderN], Or.inr ⟨m, A, ?_, ?_⟩⟩
      · simp [e1, e5]
      · simp [inorderN, e3]

theorem removeKey_eq_none_iff {cmp} {k : Val} : ∀ {t : Tree}, removeKey cmp k t = none ↔ find cmp k t = none
  | .nil => by simp [removeKey, find]
  | .node id l x r => by
    simp only [removeKey, find]
    split
    · obtain ⟨rm, e, _⟩ := removeNode_spec id l x r
      simp [e]
    · split
      · simp [removeKey_eq_none_iff (t := r)]
      · simp [removeKey_eq_none_iff (t := l)]

theorem removeKey_spec {cmp} {k : Val} : ∀ {t : Tree} {rm : Rm}, removeKey cmp k t = some rm →
    ∃ s, cmp k rm.dval = 0 ∧ RmSpec t.inorderN rm.tree.inorderN s rm.dval rm.freed
  | .nil, rm, h => by simp [removeKey] at h
  | .node id l x r, rm, h => by
    simp only [removeKey] at h
    split at h
    · rename_i he
      obtain ⟨rm', e, d, sp⟩ := removeNode_spec id l x r
      rw [e] at h; cases h
      exact ⟨id, by rw [d]; exact he, by rw [d]; exact sp⟩
    · split at h
      · obtain ⟨rm', hr, rfl⟩ := Option.map_eq_some_iff.mp h
        obtain ⟨s, he, sp⟩ := removeKey_spec hr
        exact ⟨s, he, by simpa [Rm.wrapR, inorderN] using sp.wrap (l.inorderN ++ [(id, x)]) []⟩
      · obtain ⟨rm', hl, rfl⟩ := Option.map_eq_some_iff.mp h
        obtain ⟨s, he, sp⟩ := removeKey_spec hl
        exact ⟨s, he, by simpa [Rm.wrapL, inorderN] using sp.wrap [] ((id, x) :: r.inorderN)⟩

theorem postorder_determined : ∀ (t1 t2 : Tree), t1.inorder.Nodup → t1.preorder = t2.preorder → t1.inorder = t2.inorder →
    t1.postorder = t2.postorder
  | .nil, t2, _, hp, _ => by
    cases t2 with
    | nil => rfl
    | node => simp [preorder] at hp
  | .node _ l1 v r1, t2, hn, hp, hin => by
    cases t2 with
    | nil => simp [preorder] at hp
    | node _ l2 v2 r2 =>
      simp only [preorder, List.cons.injEq] at hp
      obtain ⟨rfl, hp⟩ := hp
      simp only [inorder] at hin hn
      obtain ⟨el, _, er⟩ := split_unique id rfl (by simpa using hn) hin
      have hl : l1.preorder.length = l2.preorder.length := by
        rw [preorder_length, preorder_length, ← inorder_length, ← inorder_length, el]
      obtain ⟨pl, pr⟩ := List.append_inj hp hl
      have nl : l1.inorder.Nodup := (List.nodup_append.mp hn).1
      have nr : r1.inorder.Nodup := (List.nodup_cons.mp (List.nodup_append.mp hn).2.1).2
      simp only [postorder]
      rw [postorder_determined l1 l2 nl pl el, postorder_determined r1 r2 nr pr er]

end Lm.Struct.Bst
