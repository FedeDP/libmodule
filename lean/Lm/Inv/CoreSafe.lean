import Lm.Inv.CoreInv
import Lm.Inv.CoreGuards
/-!
# Every library program keeps `Inv` and `Mono` — for every callback program

A small Hoare logic on top of `wpA`: `Triple P p Q` — started in an `Inv`-state satisfying `P` (and
`Mono`-later than the anchor), `p` keeps `Inv`/`Mono` at each suspension and at its end, where `Q`
holds; after a callback only `Inv`, `Mono` and what `Mono` preserves may be assumed.

Almost every program is proved for an arbitrary precondition and the empty postcondition (`Keeps`): what is
known before it is dropped silently, and a fact that has to survive it (a module has left its table) is
carried across by the frame rule `Triple.stable`, which holds of every program because `Mono` is part of
every postcondition.
-/
namespace Lm.Core

def Triple {α} (P : St → Prop) (p : Prog α) (Q : α → St → Prop) : Prop :=
  ∀ a s, Inv s → Mono a s → P s → wpA Inv Mono p (fun x s' => Inv s' ∧ Mono a s' ∧ Q x s') a s

abbrev Spec {α} (p : Prog α) : Prop := Triple (fun _ => True) p (fun _ _ => True)

abbrev Keeps {α} (P : St → Prop) (p : Prog α) : Prop := Triple P p (fun _ _ => True)

theorem Triple.bind {α β} {P} {p : Prog α} {Q} {f : α → Prog β} {R}
    (hp : Triple P p Q) (hf : ∀ x, Triple (Q x) (f x) R) : Triple P (p >>= f) R := by
  intro a s hI hM hP
  rw [wpA_bind']
  exact wpA_mono _ _ _ _ _ _ _ (fun x s' h => hf x a s' h.1 h.2.1 h.2.2) (hp a s hI hM hP)

theorem Triple.weaken {α} {P P' : St → Prop} {p : Prog α} {Q Q' : α → St → Prop}
    (h : Triple P p Q) (hP : ∀ s, Inv s → P' s → P s) (hQ : ∀ x s, Inv s → Q x s → Q' x s) : Triple P' p Q' := by
  intro a s hI hM hP'
  exact wpA_mono _ _ _ _ _ _ _ (fun x s' h => ⟨h.1, h.2.1, hQ x s' h.1 h.2.2⟩) (h a s hI hM (hP s hI hP'))

theorem Triple.pre {α} {P P' : St → Prop} {p : Prog α} {Q} (h : Triple P p Q) (hP : ∀ s, Inv s → P' s → P s) : Triple P' p Q :=
  h.weaken hP fun _ _ _ hq => hq

theorem Triple.keeps {α} {P : St → Prop} {p : Prog α} {Q} (h : Triple P p Q) : Keeps P p :=
  h.weaken (fun _ _ hp => hp) fun _ _ _ _ => trivial

theorem Triple.ret {α} {P : St → Prop} (x : α) : Triple P (pure x : Prog α) (fun _ => P) :=
  fun _ _ hI hM hP => ⟨hI, hM, hP⟩

theorem Triple.get {P : St → Prop} : Triple P getSt (fun x s => x = s ∧ P s) :=
  fun _ _ hI hM hP => ⟨hI, hM, rfl, hP⟩

theorem Triple.mod {P : St → Prop} {Q : Unit → St → Prop} (g : St → St)
    (h : ∀ s, Inv s → P s → Inv (g s) ∧ Mono s (g s) ∧ Q () (g s)) : Triple P (modify g) Q :=
  fun _ s hI hM hP => ⟨(h s hI hP).1, hM.trans (h s hI hP).2.1, (h s hI hP).2.2⟩

theorem Triple.set {P : St → Prop} {Q : Unit → St → Prop} (x : St)
    (h : ∀ s, Inv s → P s → Inv x ∧ Mono s x ∧ Q () x) : Triple P (setSt x) Q :=
  fun _ s hI hM hP => ⟨(h s hI hP).1, hM.trans (h s hI hP).2.1, (h s hI hP).2.2⟩

theorem Triple.call {P : St → Prop} (cb m e) :
    Triple P (callCb cb m e) (fun _ s' => ∃ s0, P s0 ∧ Inv s0 ∧ Mono s0 s') :=
  fun _ s hI hM hP => ⟨hI, hM, fun _ _ hI' hM' => ⟨hI', Mono.trans hM hM', s, hP, hI, hM'⟩⟩

theorem Triple.ite {α} (c : Prop) [Decidable c] {P} {p q : Prog α} {Q}
    (hp : c → Triple P p Q) (hq : ¬c → Triple P q Q) : Triple P (if c then p else q) Q := by
  by_cases h : c
  · simp only [h, if_true]; exact hp h
  · simp only [h, if_false]; exact hq h

def ViewP (F : List Sig → Prop) : St → Prop := fun s => F s.sigs

structure Stable (R : St → Prop) : Prop where
  view : ∀ s s', s'.sigs = s.sigs → R s → R s'
  mono : ∀ s s', Mono s s' → R s → R s'

theorem Stable.imp (c : Prop) {R : St → Prop} (hR : Stable R) : Stable (fun s => c → R s) :=
  ⟨fun s s' h hr hc => hR.view s s' h (hr hc), fun s s' h hr hc => hR.mono s s' h (hr hc)⟩

/-- Frame rule.  `h` is taken with the start of `p` as its anchor, so that its postcondition gives `Mono` from start to end,
which carries `R`; `wpA_anchor` then moves the anchor back. -/
theorem Triple.stable {α} {p : Prog α} {R : St → Prop} (hR : Stable R) (h : Spec p) : Triple R p (fun _ => R) := by
  intro a s hI hM hr
  refine wpA_anchor Inv Mono frameable.trans p _ hM s (wpA_mono Inv Mono p _ _ s s (fun _ s' h' => ?_) (h s s hI (Mono.refl s) trivial))
  exact ⟨h'.1, Mono.trans hM h'.2.1, hR.mono s s' h'.2.1 hr⟩

theorem Mono_of_sigs {s s' : St} (h : s'.sigs = s.sigs) : Mono s s' := Mono.congr_right h (Mono.refl s)

/- Single steps that carry a fact along explicitly: one about the view (`quiet`, `setCurr`), or a stable `R` beside `P`
(`step`, `quietR`, `quietP`, `retP`, `setView`).  Of these the program proofs below use `quietV` only: they carry everything
else across whole programs by the frame rule. -/

theorem Triple.quiet {P : St → Prop} (g : St → St) (hg : Quiet g) (hP : ∀ s, P s → P (g s)) :
    Triple P (modify g) (fun _ s => P s) :=
  Triple.mod g fun s hI hp => ⟨hg.inv hI, Mono_of_sigs (hg.sigs s), hP s hp⟩

theorem Triple.quietV {F : List Sig → Prop} {g : St → St} (hg : Quiet g) : Triple (ViewP F) (modify g) (fun _ => ViewP F) :=
  Triple.quiet g hg fun s h => by unfold ViewP; rw [hg.sigs]; exact h

theorem quiet_setCurrOf_sigs (m x) (s : St) : (setCurrOf m x s).sigs = s.sigs := setCurrOf_sigs s m x

theorem Triple.setCurr {F : List Sig → Prop} (m x) : Triple (ViewP F) (modify (setCurrOf m x)) (fun _ => ViewP F) :=
  Triple.mod _ fun s hI hp =>
    ⟨Inv.setCurrOf m x hI, Mono_of_sigs (quiet_setCurrOf_sigs m x s), by unfold ViewP; rw [quiet_setCurrOf_sigs]; exact hp⟩

theorem Triple.step {P Q R : St → Prop} (hR : Stable R) (g : St → St)
    (h : ∀ s, Inv s → P s → R s → Inv (g s) ∧ Mono s (g s) ∧ Q (g s)) :
    Triple (fun s => P s ∧ R s) (Lm.Core.modify g) (fun _ s => Q s ∧ R s) :=
  Triple.mod g fun s hI hp =>
    have := h s hI hp.1 hp.2
    ⟨this.1, this.2.1, this.2.2, hR.mono _ _ this.2.1 hp.2⟩

theorem Triple.quietR {P R : St → Prop} (hR : Stable R) (g : St → St) (hg : Quiet g) (hP : ∀ s, P s → P (g s)) :
    Triple (fun s => P s ∧ R s) (Lm.Core.modify g) (fun _ s => P s ∧ R s) :=
  Triple.quiet g hg fun s hp => ⟨hP s hp.1, hR.view _ _ (hg.sigs s) hp.2⟩

theorem Triple.quietP {P R : St → Prop} (hR : Stable R) (g : St → St) (hg : Quiet g) :
    Triple (fun s => P s ∧ R s) (Lm.Core.modify g) (fun _ => R) :=
  (Triple.quiet g hg fun s => hR.view _ _ (hg.sigs s)).pre fun _ _ h => h.2

theorem Triple.retP {α} {P R : St → Prop} (x : α) : Triple (fun s => P s ∧ R s) (pure x : Prog α) (fun _ => R) :=
  (Triple.ret x).weaken (fun _ _ hp => hp) fun _ _ _ hp => hp.2

theorem Triple.setView {P : St → Prop} {R : St → Prop} (hR : Stable R) (x : St)
    (h : ∀ s, P s → x.sigs = s.sigs ∧ x.ctx = s.ctx ∧ x.nextCtx = s.nextCtx ∧ x.trans = s.trans) :
    Triple (fun s => P s ∧ R s) (setSt x) (fun _ => R) :=
  Triple.set x fun s hI hp =>
    have hv := h s hp.1
    ⟨Inv.of_view hv hI, Mono_of_sigs hv.1, hR.view _ _ hv.1 hp.2⟩

section
/- From here on `Triple` is used through the rules above only.  Sealing it keeps the elaborator from unfolding `wpA`
along the whole program text each time a rule is applied to a program.

The rules below, in which the program proofs are written, are in the namespace `Triple` because `Keeps P p` unfolds to
`Triple …`: so `.seq …`, `.done _` resolve where a `Keeps P p` is expected.  Suffix `S`: the `Keeps` form of the rule of
that name above. -/
attribute [local irreducible] Triple

variable {α β : Type} {P : St → Prop}

theorem Triple.done (x : α) : Keeps P (pure x : Prog α) := (Triple.ret x).keeps

theorem Triple.seq {p : Prog α} {f : α → Prog β} {Q} (hp : Keeps P p) (hf : ∀ x, Triple (fun _ => True) (f x) Q) :
    Triple P (p >>= f) Q := Triple.bind hp hf

theorem Triple.drop {p : Prog α} {Q} (h : Triple (fun _ => True) p Q) : Triple P p Q := h.pre fun _ _ _ => trivial

theorem Triple.refuse (c : Prop) [Decidable c] {e : α} {q : Prog α} (h : ¬c → Keeps P q) : Keeps P (if c then pure e else q) :=
  Triple.ite c (fun _ => Triple.done e) h

theorem Triple.read {f : St → Prog α} {Q} (h : ∀ s, Triple (fun s' => s = s' ∧ P s') (f s) Q) : Triple P (getSt >>= f) Q :=
  Triple.bind Triple.get h

theorem Triple.calm (g : St → St) (hs : ∀ s, (g s).sigs = s.sigs) (hI : ∀ s, Inv s → P s → Inv (g s)) : Keeps P (modify g) :=
  Triple.mod g fun s h hp => ⟨hI s h hp, Mono_of_sigs (hs s), trivial⟩

theorem Triple.setCalm {s : St} (x : St) (hs : x.sigs = s.sigs) (hI : Inv s → Inv x) :
    Triple (fun s' => s = s' ∧ P s') (setSt x) (fun _ s' => s' = x) :=
  Triple.set x fun _ h hp => hp.1 ▸ ⟨hI (hp.1 ▸ h), Mono_of_sigs hs, rfl⟩

theorem Triple.quietS {g : St → St} (hg : Quiet g) : Keeps P (modify g) :=
  Triple.calm g hg.sigs fun _ h _ => hg.inv h

theorem Triple.setSame {s : St} (x : St) (h : x.sigs = s.sigs ∧ x.ctx = s.ctx ∧ x.nextCtx = s.nextCtx ∧ x.trans = s.trans) :
    Triple (fun s' => s = s' ∧ P s') (setSt x) (fun _ s' => s' = x) :=
  Triple.setCalm x h.1 (Inv.of_view h)

theorem Triple.setCurrS (m x) : Keeps P (modify (setCurrOf m x)) :=
  Triple.calm _ (fun s => setCurrOf_sigs s m x) fun _ h _ => Inv.setCurrOf m x h

theorem Triple.updCtx (f : Ctx → Ctx) (hf : ∀ c, (f c).id = c.id ∧ (f c).running = c.running) :
    Keeps P (modify fun s => s.updCtx f) :=
  Triple.calm _ (fun s => updCtx_sigs s f) fun s h _ => inv_updCtx s f (fun c => (hf c).1) (fun c => (hf c).2) h

theorem Triple.callS (cb m e) : Keeps P (callCb cb m e) := (Triple.call cb m e).keeps

theorem optionalHook_keeps (m : ModId) (cb : Cb) (present : Bool) : Keeps P (optionalHook m cb present) := by
  unfold optionalHook
  exact
    .read fun s =>
    .seq (.setCurrS _ _) fun _ =>
    .seq (.ite _ (fun _ => .callS _ _ _) fun _ => .done _) fun b =>
    .seq (.setCurrS _ _) fun _ =>
    .read fun s' =>
    .refuse _ fun _ =>
    .done _

def OutOf (m : ModId) : St → Prop := fun s => ∃ g : Sig, s.sigs[m]? = some g ∧ g.inCtx = false

theorem Stable.outOf (m : ModId) : Stable (OutOf m) := by
  refine ⟨fun s s' h ⟨g, hg, hi⟩ => ⟨g, by rw [h]; exact hg, hi⟩, fun s s' hM ⟨g, hg, hi⟩ => ?_⟩
  obtain ⟨g', e, i, _⟩ := hM m g hg
  exact ⟨g', e, i hi⟩

/-- what makes the state change of `stop()` a documented edge: pause only from RUNNING; stop from RUNNING, PAUSED or STOPPED
(no change), or from any state as the first half of a deregistration -/
def StopEdge (g : Sig) (stopping leave : Bool) : Prop :=
  (stopping = false → g.state = .running) ∧
  (stopping = true → leave = true ∨ g.state = .running ∨ g.state = .paused ∨ g.state = .stopped)

def CanStop (m : ModId) (stopping leave : Bool) (l : List Sig) : Prop :=
  ∃ g : Sig, l[m]? = some g ∧ g.state ≠ .zombie ∧ (stopping = false → g.inCtx = true ∧ leave = false) ∧ StopEdge g stopping leave

theorem StopEdge.ok {g : Sig} {stopping leave : Bool} (h : StopEdge g stopping leave) (hz : g.state ≠ .zombie) (m : ModId) :
    Trans.ok { m := m, src := g.state, dst := if stopping then .stopped else .paused, out := leave || !g.inCtx } = true := by
  cases stopping with
  | false => simp [Trans.ok, h.1 rfl]
  | true =>
    rcases h.2 rfl with h | h | h | h
    · revert hz
      generalize g.state = st
      cases st <;> simp [Trans.ok, h]
    · simp [Trans.ok, h]
    · simp [Trans.ok, h]
    · simp [Trans.ok, h]

theorem stopStep_triple (m : ModId) (stopping leave : Bool) :
    Triple (ViewP (CanStop m stopping leave)) (modify fun s => stopStep s m (if stopping then .stopped else .paused) leave)
      (fun _ s => leave = true → OutOf m s) := by
  refine Triple.mod _ fun s hI ⟨g, hg, hz, hin, hedge⟩ =>
    ⟨inv_stop hI hg ?_ (fun hout => ?_) (hedge.ok hz m), mono_stop hg hz _ leave, fun hl => ?_⟩
  · cases stopping <;> decide
  · -- a module that only pauses stays in the table
    cases stopping with
    | true => exact .inl rfl
    | false =>
      rw [(hin rfl).2] at hout
      cases (hin rfl).1.symm.trans hout
  · subst hl
    exact ⟨g.stopped _ true, by rw [stopStep_sigs, List.getElem?_modify_eq, hg]; rfl, rfl⟩

theorem stopP_triple (m : ModId) (stopping leave : Bool) :
    Triple (ViewP (CanStop m stopping leave)) (stopP m stopping leave) (fun _ s => leave = true → OutOf m s) := by
  unfold stopP
  refine
    .bind (.quietV (quiet_manageSrcsRm m stopping)) fun _ =>
    .bind (stopStep_triple m stopping leave) fun _ =>
    -- what follows (reset, stop hook, notification) claims nothing: that the module is out of the table survives it
    Triple.stable ((Stable.outOf m).imp _) ?_
  exact
    .read fun s =>
    .seq (.ite _
      (fun _ =>
        .seq (.quietS (quiet_resetModule m)) fun _ =>
        optionalHook_keeps _ _ _)
      fun _ => .done _) fun ret =>
    .refuse _ fun _ =>
    .seq (.quietS (quiet_tellSystem _ _ _ _)) fun _ =>
    .done _

theorem sig_of_stateIs (s : St) (m : ModId) (x : MState) (h : stateIs s m x = true) :
    ∃ g : Sig, s.sigs[m]? = some g ∧ g.state = x := by
  unfold stateIs at h
  split at h
  · next md hm => exact ⟨md.sig, sig_of_mod s m md hm, (by simpa using h : md.state = x)⟩
  · cases h

theorem canStop_of_isRP {s : St} {m : ModId} (h : isRP s m = true) : CanStop m true false s.sigs := by
  unfold isRP at h
  simp only [Bool.or_eq_true] at h
  rcases h with h | h <;> obtain ⟨g, hg, hs⟩ := sig_of_stateIs s m _ h <;>
    exact ⟨g, hg, by rw [hs]; decide, nofun, nofun, fun _ => by simp [hs]⟩

theorem stopRP_keeps {s : St} (m : ModId) (h : isRP s m = true) : Keeps (fun s' => s = s' ∧ P s') (stopP m true) :=
  Triple.keeps <| (stopP_triple m true false).pre fun _ _ hp => hp.1 ▸ canStop_of_isRP h

def CanStart (m : ModId) (l : List Sig) : Prop :=
  ∃ g : Sig, l[m]? = some g ∧ g.state ≠ .running ∧ g.state ≠ .zombie ∧ g.inCtx = true

theorem startStep_keeps (m : ModId) : Keeps (ViewP (CanStart m))
    (modify fun s => setState (s.updCtxId (s.ctxIdOf m) fun c => { c with running := c.running + 1 }) m .running) :=
  Triple.mod _ fun _ hI ⟨_, hg, hnr, hz, hin⟩ => ⟨inv_start hI hg hnr hin hz, mono_start hg hz _, trivial⟩

theorem startP_keeps (m : ModId) (starting : Bool) : Keeps (ViewP (CanStart m)) (startP m starting) := by
  unfold startP
  exact
    .bind (.quietV (Quiet.ite _ (quiet_updMod m _ fun _ => rfl) Quiet.id)) fun _ =>
    .bind (.quietV (quiet_manageSrcsAdd m)) fun _ =>
    .seq (startStep_keeps m) fun _ =>
    .read fun s =>
    .seq (.ite _ (fun _ => optionalHook_keeps _ _ _) fun _ => .done _) fun ret =>
    .ite _
      (fun _ =>
        .seq (.quietS (quiet_tellSystem _ _ _ _)) fun _ =>
        .done _)
      fun _ =>
    .ite _
      (fun _ =>
        .read fun s' =>
        .ite _ (fun hrp => .seq (stopRP_keeps m hrp) fun _ => .done _) fun _ => .done _)
      fun _ => .done _

theorem evaluateP_keeps (m : ModId) : Keeps P (evaluateP m) := by
  unfold evaluateP
  refine
    .read fun s =>
    .ite _
      (fun _ =>
        .seq (optionalHook_keeps _ _ _) fun r =>
        .read fun s' =>
        .ite _ (fun hc => .seq ((startP_keeps m true).pre fun st hI hp => ?_) fun _ => .done _) fun _ => .done _)
      fun _ => .done _
  -- the module was just seen IDLE
  simp only [Bool.and_eq_true] at hc
  obtain ⟨g, hg, hs⟩ := sig_of_stateIs _ m _ (hp.1 ▸ hc.2)
  exact ⟨g, hg, by rw [hs]; decide, by rw [hs]; decide, hI.inCtx hg (by rw [hs]; decide) (by rw [hs]; decide)⟩

theorem callPubsubCb_keeps (m : ModId) (evts : List Evt) : Keeps P (callPubsubCb m evts) := by
  unfold callPubsubCb
  exact
    .refuse _ fun _ =>
    .read fun s =>
    .seq (.setCurrS _ _) fun _ =>
    .seq (.callS _ _ _) fun _ =>
    .seq (.quietS (quiet_updMod m _ fun _ => rfl)) fun _ =>
    .seq (.setCurrS _ _) fun _ =>
    -- the events that are kept are read off the state
    .quietS (Quiet.pointwise _ fun s' => ⟨_, quiet_destroyEvts evts (s'.mods.flatMap (·.stash)), rfl⟩)

theorem pushEvtP_keeps (m : ModId) (e : Evt) : Keeps P (pushEvtP m e) := by
  unfold pushEvtP
  refine
    .read fun s =>
    .seq (.quietS (quiet_pushEvtStore m e)) fun _ =>
    .refuse _ fun _ =>
    .read fun s' => ?_
  cases s'.mods[m]? with
  | none => exact .done _
  | some md =>
    exact
      .refuse _ fun _ =>
      .ite _
        (fun _ =>
          .seq (.quietS (quiet_updMod m _ fun _ => rfl)) fun _ =>
          callPubsubCb_keeps _ _)
        fun _ => .done _

theorem modAssert_not_zombie (s : St) (m : ModId) (md : Mod) (hm : s.mods[m]? = some md) (h : modAssert s m = none) :
    md.state ≠ .zombie :=
  fun hz => by rw [modAssert_zombie hm hz] at h; cases h

theorem zombie_keeps (m : ModId) : Keeps (OutOf m) (modify fun s => setState s m .zombie) :=
  Triple.mod _ fun s hI ⟨g, hg, hout⟩ =>
    have hnr : g.state ≠ .running := by rcases hI.out m g hg hout with h | h <;> (rw [h]; decide)
    ⟨inv_zombie hI hg hnr, mono_zombie hg, trivial⟩

theorem modDeregCore_keeps (ar : Prog Int) (har : Spec ar) (m : ModId) : Keeps P (modDeregCore ar m) := by
  unfold modDeregCore
  refine .read fun s => ?_
  cases hma : modAssert s m with
  | some e => exact .done _
  | none =>
    cases hmd : s.mods[m]? with
    | none => exact .done _
    | some md =>
      cases s.ctx with
      | none => exact .done _
      | some c =>
        refine
          .refuse _ fun _ =>
          .refuse _ fun _ =>
          -- not a ZOMBIE: `M_MOD_ASSERT` passed; `stop()` takes the module out of the table, which makes it a ZOMBIE next
          .bind ((stopP_triple m true true).weaken (fun _ _ hp => hp.1 ▸ ?_) fun _ _ _ h => h rfl) fun _ =>
          .seq (zombie_keeps m) fun _ =>
          .read fun s' => ?_
        · exact ⟨md.sig, sig_of_mod _ m md hmd, modAssert_not_zombie s m md hmd hma, nofun, nofun, fun _ => .inl rfl⟩
        · cases s'.ctx with
          | none => exact .done _
          | some c' => exact .ite _ (fun _ => har.drop) fun _ => .done _

theorem unmodelled_keeps (w : String) : Keeps P (unmodelled w) :=
  .seq (.quietS (quiet_emit _)) fun _ =>
  .done _

theorem iterSlots_keeps (f : ModId → Prog Int) (hf : ∀ m, Spec (f m)) :
    ∀ {P : St → Prop} (slots : List (Nat × Bool)) (again : Option Nat), Keeps P (iterSlots f slots again)
  | _, [], _ => by unfold iterSlots; exact .done _
  | _, (i, isRepeat) :: rest, again => by
    unfold iterSlots
    refine
      .ite _ (fun _ => iterSlots_keeps f hf rest again) fun _ =>
      .read fun s => ?_
    cases s.modAtSlot i with
    | none => exact iterSlots_keeps f hf rest none
    | some m =>
      exact
        .seq (hf m).drop fun rc =>
        .refuse _ fun _ =>
        .refuse _ fun _ =>
        .read fun s' =>
        .ite _
          (fun _ => .ite _ (fun _ => unmodelled_keeps _) fun _ => iterSlots_keeps f hf rest (some i))
          fun _ =>
        .refuse _ fun _ =>
        iterSlots_keeps f hf rest none

theorem iterMods_keeps (f : ModId → Prog Int) (hf : ∀ m, Spec (f m)) : Keeps P (iterMods f) := by
  unfold iterMods
  refine
    .read fun s =>
    .refuse _ fun _ =>
    iterSlots_keeps _ (fun m =>
      .seq (hf m) fun r =>
      .read fun s' => ?_) _ _
  cases s'.ctx with
  | none => exact .done _
  | some c' => exact .ite _ (fun _ => .seq (unmodelled_keeps _) fun _ => .done _) fun _ => .done _

theorem destroyLoop_keeps : ∀ {P : St → Prop} n, Keeps P (destroyLoop n)
  | _, 0 => by unfold destroyLoop; exact .done _
  | _, n + 1 => by
    unfold destroyLoop
    exact
      .read fun s =>
      .refuse _ fun _ =>
      .seq (iterMods_keeps _ fun m => modDeregCore_keeps _ (.done _) m) fun r =>
      .refuse _ fun _ =>
      destroyLoop_keeps n

theorem ctxDeregisterP_keeps : Keeps P ctxDeregisterP := by
  unfold ctxDeregisterP
  refine .read fun s => ?_
  cases mctx s with
  | none => exact .done _
  | some c =>
    exact
      .refuse _ fun _ =>
      .refuse _ fun _ =>
      .seq (.updCtx _ fun _ => ⟨rfl, rfl⟩) fun _ =>
      .seq (destroyLoop_keeps _) fun _ =>
      .seq (.calm _ (fun _ => rfl) fun st hI _ => inv_ctx_none st _ hI) fun _ =>
      .done _

theorem modDeregisterP_keeps (m : ModId) : Keeps P (modDeregisterP m) := modDeregCore_keeps _ ctxDeregisterP_keeps m

theorem flushModP_keeps (m : ModId) : Keeps P (flushModP m) := by
  unfold flushModP
  refine .read fun s => ?_
  cases s.mods[m]? with
  | none => exact .done _
  | some md =>
    simp only
    cases md.pipe with
    | none => exact .done _
    | some q =>
      refine .ite _ (fun _ => ?_) fun _ => ?_
      · exact
          .seq (.quietS (quiet_updMod m _ fun _ => rfl)) fun _ =>
          .read fun s1 =>
          .seq (.quietS (Quiet.foldl (flushStep m) (quiet_flushStep m) _)) fun _ =>
          .seq (callPubsubCb_keeps _ _) fun _ =>
          .read fun s' =>
          .ite _
            (fun hc => .seq (stopRP_keeps m (Bool.and_eq_true_iff.mp hc).2) fun _ => .done _)
            fun _ => .done _
      · refine
          .seq (.quietS (Quiet.comp (quiet_updMod m _ ?_) (Quiet.foldl destroyMsg quiet_destroyMsg q))) fun _ =>
          .done _
        exact fun _ => rfl

theorem loopStartP_keeps : Keeps P loopStartP :=
  .seq (.updCtx _ fun _ => ⟨rfl, rfl⟩) fun _ =>
  .seq (.updCtx _ fun _ => ⟨rfl, rfl⟩) fun _ =>
  .seq (iterMods_keeps _ evaluateP_keeps) fun _ =>
  .seq (.quietS (quiet_tellSystem _ _ _ _)) fun _ =>
  .done _

theorem loopStopP_keeps (cid : Nat) : Keeps P (loopStopP cid) := by
  unfold loopStopP
  refine .read fun s0 => ?_
  cases s0.ctx with
  | none => exact unmodelled_keeps _
  | some c0 =>
    refine
      .ite _ (fun _ => unmodelled_keeps _) fun _ =>
      .seq (.updCtx _ fun _ => ⟨rfl, rfl⟩) fun _ =>
      .seq (.quietS (quiet_tellSystem _ _ _ _)) fun _ =>
      .seq (iterMods_keeps _ flushModP_keeps) fun _ =>
      .read fun s => ?_
    cases s.ctx with
    | none => exact .done _
    | some c =>
      exact
        .refuse _ fun _ =>
        .seq (.updCtx _ fun _ => ⟨rfl, rfl⟩) fun _ =>
        .ite _ (fun _ => .seq ctxDeregisterP_keeps fun _ => .done _) fun _ => .done _

theorem recvOneP_keeps (p : PollEnt) : Keeps P (recvOneP p) := by
  unfold recvOneP
  refine .read fun s => ?_
  cases p with
  | bad t => exact .seq (.quietS (quiet_emit _)) fun _ => .done _
  | tick =>
    simp only
    cases s.ctx with
    | none => exact .done _
    | some c =>
      exact
        .refuse _ fun _ =>
        .seq (.quietS (quiet_tellSystem _ _ _ _)) fun _ =>
        .done _
  | src i =>
    simp only
    cases s.srcs[i]? with
    | none => exact .done _
    | some x =>
      exact
        .refuse _ fun _ =>
        .seq (.quietS (Quiet.ite _ (quiet_removeSrc _ _) Quiet.id)) fun _ =>
        .seq (pushEvtP_keeps _ _) fun _ =>
        .done _
  | ps m =>
    simp only
    cases s.mods[m]? with
    | none => exact .done _
    | some md =>
      refine .refuse _ fun _ => ?_
      rcases md.pipe with _ | _ | ⟨msg, rest⟩
      · exact .done _
      · exact .done _
      exact
        .seq (.quietS (quiet_updMod m _ fun _ => rfl)) fun _ =>
        .ite _
          (fun _ =>
            .seq (.quietS (quiet_destroyMsg msg)) fun _ =>
            .done _)
          fun _ =>
        .seq (.quietS (quiet_consumeOneshot m md msg)) fun _ =>
        .ite _
          (fun _ =>
            .read fun s1 =>
            .seq (.quietS (quiet_destroyMsg msg)) fun _ =>
            .seq (.quietS (quiet_updMod m _ fun _ => rfl)) fun _ =>
            .seq (callPubsubCb_keeps _ _) fun _ =>
            .read fun s2 =>
            .ite _ (fun hrp => .seq (stopRP_keeps m hrp) fun _ => .done _) fun _ => .done _)
          fun _ =>
        .seq (pushEvtP_keeps _ _) fun _ =>
        .done _

theorem recvBatchP_keeps : ∀ {P : St → Prop} (l : List PollEnt) (n : Nat), Keeps P (recvBatchP l n)
  | _, [], _ => by unfold recvBatchP; exact .done _
  | _, p :: ps, n => by
    unfold recvBatchP
    exact
      .read fun s0 =>
      .seq (recvOneP_keeps p) fun k =>
      .read fun s1 =>
      .ite _ (fun _ => .seq (unmodelled_keeps _) fun _ => .done _) fun _ =>
      .refuse _ fun _ =>
      recvBatchP_keeps ps _

theorem recvEventsP_keeps (b : List PollEnt) : Keeps P (recvEventsP b) := by
  unfold recvEventsP
  exact
    .seq (recvBatchP_keeps b 0) fun (recved, err) =>
    .refuse _ fun _ =>
    .ite _
      (fun _ =>
        .seq (iterMods_keeps _ evaluateP_keeps) fun _ =>
        .seq (.updCtx _ fun _ => ⟨rfl, rfl⟩) fun _ =>
        .done _)
      fun _ => .done _

theorem nextBatch_keeps : Keeps P nextBatch := by
  unfold nextBatch
  refine .read fun s => ?_
  cases s.batches with
  | nil => exact .seq (.quietS (quiet_emit _)) fun _ => .done _
  | cons b rest =>
    exact
      .bind (.setSame _ ⟨rfl, rfl, rfl, rfl⟩) fun _ =>
      .ite _ (fun _ => .seq (.updCtx _ fun _ => ⟨rfl, rfl⟩) fun _ => .done _) fun _ => .done _

theorem apiDispatch_keeps : Keeps P apiDispatch := by
  unfold apiDispatch
  refine .read fun s => ?_
  cases mctx s with
  | none => exact .done _
  | some c =>
    exact
      .ite _ (fun _ => .refuse _ fun _ => loopStartP_keeps) fun _ =>
      .ite _ (fun _ => loopStopP_keeps _) fun _ =>
      .seq nextBatch_keeps fun b =>
      recvEventsP_keeps b

theorem loopBody_keeps (cid : Nat) : ∀ {P : St → Prop} n, Keeps P (loopBody cid n)
  | _, 0 => by unfold loopBody; exact .done _
  | _, n + 1 => by
    unfold loopBody
    refine .read fun s => ?_
    cases s.ctx with
    | none => exact .done _
    | some c =>
      exact
        .ite _
          (fun _ =>
            .seq nextBatch_keeps fun b =>
            .seq (recvEventsP_keeps b) fun _ =>
            loopBody_keeps cid n)
          fun _ => .done _

theorem apiLoop_keeps : Keeps P apiLoop := by
  unfold apiLoop
  refine .read fun s => ?_
  cases mctx s with
  | none => exact .done _
  | some c =>
    exact
      .refuse _ fun _ =>
      .refuse _ fun _ =>
      .refuse _ fun _ =>
      .seq loopStartP_keeps fun _ =>
      .read fun s' =>
      .seq (loopBody_keeps _ _) fun _ =>
      loopStopP_keeps _

theorem consumeToken_view (s s' : St) (m : ModId) (h : consumeToken s m = some s') :
    s'.sigs = s.sigs ∧ s'.ctx = s.ctx ∧ s'.nextCtx = s.nextCtx ∧ s'.trans = s.trans := by
  unfold consumeToken at h
  split at h
  · cases h
  · split at h
    · cases h; exact ⟨rfl, rfl, rfl, rfl⟩
    · split at h
      · cases h
      · cases h
        refine Quiet.view (quiet_updMod m _ ?_) s
        exact fun _ => rfl

theorem token_keeps {s : St} {m : ModId} {e : Int} {k : St → Prog Int} (hk : ∀ s', s'.sigs = s.sigs → Keeps (fun st => st = s') (k s')) :
    Keeps (fun s' => s = s' ∧ P s') (match consumeToken s m with | none => pure e | some s' => do setSt s'; k s') := by
  cases h : consumeToken s m with
  | none => exact .done _
  | some s' =>
    have hv := consumeToken_view s s' m h
    exact
      .bind (.setSame s' hv) fun _ =>
      hk s' hv.1

def Passed (m : ModId) (mask : Option (List MState)) (l : List Sig) : Prop :=
  ∃ g : Sig, l[m]? = some g ∧ g.state ≠ .zombie ∧ ∀ l', mask = some l' → g.state ∈ l'

theorem guarded_keeps (m : ModId) (deny : ModFlags → Bool) (mask : Option (List MState)) (tok : Bool) (body : Prog Int)
    (hbody : Keeps (ViewP (Passed m mask)) body) : Keeps P (guarded m deny mask tok body) := by
  unfold guarded
  refine .read fun s => ?_
  cases hma : modAssert s m with
  | some e => exact .done _
  | none =>
    cases hmd : s.mods[m]? with
    | none => exact .done _
    | some md =>
      refine
        .refuse _ fun _ =>
        .refuse _ fun hmask => ?_
      have hpass : Passed m mask s.sigs :=
        ⟨md.sig, sig_of_mod s m md hmd, modAssert_not_zombie s m md hmd hma, fun l hl => by subst hl; simp at hmask; exact hmask⟩
      exact
        .ite _
          (fun _ => token_keeps fun s' hs => hbody.pre fun _ _ hp => by subst hp; unfold ViewP; rw [hs]; exact hpass)
          fun _ => hbody.pre fun _ _ hp => hp.1 ▸ hpass

theorem apiPause_keeps (m : ModId) : Keeps P (apiPause m) :=
  guarded_keeps _ _ _ _ _ <| Triple.keeps <| (stopP_triple m false false).pre fun s hI ⟨g, hg, hz, hmask⟩ => by
    have hrun : g.state = .running := by simpa using hmask _ rfl
    exact ⟨g, hg, hz, fun _ => ⟨hI.inCtx hg (by rw [hrun]; decide) hz, rfl⟩, fun _ => hrun, nofun⟩

theorem apiResume_keeps (m : ModId) : Keeps P (apiResume m) :=
  guarded_keeps _ _ _ _ _ <| (startP_keeps m false).pre fun s hI ⟨g, hg, hz, hmask⟩ => by
    have hp : g.state = .paused := by simpa using hmask _ rfl
    exact ⟨g, hg, by rw [hp]; decide, hz, hI.inCtx hg (by rw [hp]; decide) hz⟩

theorem apiStop_keeps (m : ModId) : Keeps P (apiStop m) :=
  guarded_keeps _ _ _ _ _ <| Triple.keeps <| (stopP_triple m true false).pre fun s _ ⟨g, hg, hz, hmask⟩ => by
    have hrp : g.state = .running ∨ g.state = .paused := by simpa using hmask _ rfl
    exact ⟨g, hg, hz, nofun, nofun, fun _ => by rcases hrp with h | h <;> simp [h]⟩

theorem sig_inCtx_of_modByName (s : St) (m : ModId) (n : String) (h : s.modByName n = some m) :
    ∃ g : Sig, s.sigs[m]? = some g ∧ g.inCtx = true := by
  unfold St.modByName at h
  obtain ⟨hl, hp, _⟩ := List.findIdx?_eq_some_iff_getElem.mp h
  refine ⟨(s.mods[m]).sig, sig_of_mod s m _ (List.getElem?_eq_getElem hl), ?_⟩
  simp at hp
  exact hp.1

theorem apiStart_keeps (m : ModId) : Keeps P (apiStart m) := by
  unfold apiStart
  refine .read fun s => ?_
  cases hma : modAssert s m with
  | some e => exact .done _
  | none =>
    cases hmd : s.mods[m]? with
    | none => exact .done _
    | some md =>
      refine
        .refuse _ fun hst =>
        .refuse _ fun hby => ?_
      -- the module is in the table under its name, and IDLE or STOPPED
      obtain ⟨g, hg, hin⟩ := sig_inCtx_of_modByName s m _ (by simpa using hby)
      cases (sig_of_mod s m md hmd).symm.trans hg
      have hnr : md.sig.state ≠ .running ∧ md.sig.state ≠ .zombie := by
        simp at hst
        by_cases hi : md.state = .idle
        · simp [Mod.sig, hi]
        · simp [Mod.sig, hst hi]
      exact token_keeps fun s' hs =>
        (startP_keeps m true).pre fun _ _ hp => by subst hp; exact ⟨_, by rw [hs]; exact hg, hnr.1, hnr.2, hin⟩

theorem apiBecome_keeps (m : ModId) (h : Nat) : Keeps P (apiBecome m h) :=
  guarded_keeps _ _ _ _ _ <|
    .seq (.quietS (quiet_updMod m _ fun _ => rfl)) fun _ =>
    .done _

theorem apiBatchSize_keeps (m : ModId) (n : Nat) : Keeps P (apiBatchSize m n) :=
  guarded_keeps _ _ _ _ _ <|
    .seq (.quietS (quiet_updMod m _ fun _ => rfl)) fun _ =>
    .done _

theorem apiUnbecome_keeps (m : ModId) : Keeps P (apiUnbecome m) := by
  refine guarded_keeps _ _ _ _ _ <| .read fun s => ?_
  cases s.mods[m]? with
  | none => exact .done _
  | some md =>
    simp only
    cases md.recvs with
    | nil => exact .done _
    | cons x rest =>
      exact
        .seq (.quietS (quiet_updMod m (fun md => { md with recvs := rest }) fun _ => rfl)) fun _ =>
        .done _

theorem apiStash_keeps (m : ModId) (e : Option Evt) : Keeps P (apiStash m e) := by
  refine guarded_keeps _ _ _ _ _ ?_
  cases e with
  | none => exact .done _
  | some e =>
    exact
      .read fun s =>
      token_keeps fun _ _ =>
      .refuse _ fun _ =>
      .seq (.quietS (quiet_updMod m (fun md => { md with stash := md.stash ++ [e] }) fun _ => rfl)) fun _ =>
      .done _

theorem apiUnstash_keeps (m : ModId) (n : Nat) : Keeps P (apiUnstash m n) := by
  refine guarded_keeps _ _ _ _ _ <|
    .refuse _ fun _ =>
    .read fun s =>
    token_keeps fun s' _ => ?_
  cases s'.mods[m]? with
  | none => exact .done _
  | some md =>
    exact
      .seq (.quietS (quiet_updMod m (fun md => { md with stash := md.stash.drop n }) fun _ => rfl)) fun _ =>
      .seq (callPubsubCb_keeps _ _) fun _ =>
      .done _

theorem addSrc_keeps (m : ModId) (x : Src) : Keeps P (do let s ← getSt; let (s', r) := addSrc s m x; setSt s'; pure r) :=
  .read fun s =>
  .bind (.setSame _ ((quiet_addSrc m x).view s)) fun _ =>
  .done _

theorem apiBatchTimeout_keeps (m : ModId) (ns : Nat) : Keeps P (apiBatchTimeout m ns) := by
  refine guarded_keeps _ _ _ _ _ <| .read fun s => ?_
  cases s.mods[m]? with
  | none => exact .done _
  | some md =>
    exact
      .seq (.quietS (quiet_rmInternal m _ _)) fun _ =>
      .seq (.quietS (quiet_updMod m (fun md => { md with batchTimer := ns }) fun _ => rfl)) fun _ =>
      .ite _
        (fun _ =>
          .seq (.quietS (quiet_updMod m _ fun md => by split <;> rfl)) fun _ =>
          addSrc_keeps m _)
        fun _ =>
      .seq (.quietS (quiet_updMod m _ fun md => by split <;> rfl)) fun _ =>
      .done _

theorem apiTokenBucket_keeps (m : ModId) (rate burst : Nat) : Keeps P (apiTokenBucket m rate burst) := by
  refine guarded_keeps _ _ _ _ _ <|
    .refuse _ fun _ =>
    .read fun s => ?_
  cases s.mods[m]? with
  | none => exact .done _
  | some md =>
    exact
      .seq (.quietS (quiet_rmInternal m _ _)) fun _ =>
      .ite _
        (fun _ =>
          .seq (.quietS (quiet_updMod m (fun md => { md with tb := none, tbTimer := 0 }) fun _ => rfl)) fun _ =>
          .done _)
        fun _ =>
      .seq (.quietS (quiet_updMod m
        (fun md => { md with tb := some { rate := rate, burst := burst, tokens := burst }, tbTimer := BILLION / rate }) fun _ => rfl)) fun _ =>
      addSrc_keeps m _

theorem apiTell_keeps (m r : ModId) (p : Nat) (af : Bool) : Keeps P (apiTell m r p af) :=
  guarded_keeps _ _ _ _ _ <|
    .read fun _ =>
    .refuse _ fun _ =>
    token_keeps fun _ _ =>
    .seq (.quietS (quiet_sendMsg _ _ _ _ _)) fun _ =>
    .done _

theorem apiPublish_keeps (m : ModId) (t : Option String) (p : Nat) (af : Bool) : Keeps P (apiPublish m t p af) :=
  guarded_keeps _ _ _ _ _ <|
    .refuse _ fun _ =>
    .read fun _ =>
    token_keeps fun _ _ =>
    .seq (.quietS (quiet_sendMsg _ _ _ _ _)) fun _ =>
    .done _

theorem apiPill_keeps (m r : ModId) : Keeps P (apiPill m r) :=
  guarded_keeps _ _ _ _ _ <|
    .read fun _ =>
    .refuse _ fun _ =>
    .refuse _ fun _ =>
    token_keeps fun _ _ =>
    .seq (.quietS (quiet_tellSystem _ _ _ _)) fun _ =>
    .done _

theorem apiSubscribe_keeps (m : ModId) (t : String) (sl : Nat) (p : Option Prio) (pb : Nat) (os : Bool) (u : Nat) :
    Keeps P (apiSubscribe m t sl p pb os u) := by
  refine guarded_keeps _ _ _ _ _ <|
    .refuse _ fun _ =>
    .read fun s =>
    token_keeps fun s' _ => ?_
  cases s'.mods[m]? with
  | none => exact .done _
  | some md =>
    simp only
    split
    · exact .seq (.quietS (quiet_updSrc _ _)) fun _ => .done _
    · exact .seq (.quietS (quiet_addSub m _)) fun _ => .done _

theorem apiUnsubscribe_keeps (m : ModId) (t : String) : Keeps P (apiUnsubscribe m t) := by
  refine guarded_keeps _ _ _ _ _ <| .read fun s => ?_
  cases s.mods[m]? with
  | none => exact .done _
  | some md =>
    refine .refuse _ fun _ => ?_
    split
    · exact .seq (.quietS (quiet_removeSrc m _)) fun _ => .done _
    · exact .done _

theorem apiRegSrc_keeps (m : ModId) (ok : Bool) (x : Src) (pb : Nat) : Keeps P (apiRegSrc m ok x pb) :=
  .refuse _ fun _ =>
  guarded_keeps _ _ _ _ _ <|
    .refuse _ fun _ =>
    addSrc_keeps m _

theorem burstP_keeps (m r : ModId) (af : Bool) : ∀ {P : St → Prop} (n p : Nat) (acc : Int), Keeps P (burstP m r af n p acc)
  | _, 0, _, _ => .done _
  | _, n + 1, p, acc => by
    unfold burstP
    exact
      .seq (apiTell_keeps m r p af) fun c =>
      burstP_keeps m r af n (p + 1) _

theorem apiDeregSrc_keeps (m : ModId) (ok : Bool) (k : SrcKind) (key : Nat) : Keeps P (apiDeregSrc m ok k key) := by
  refine
    .refuse _ fun _ =>
    .refuse _ fun _ =>
    guarded_keeps _ _ _ _ _ <| .read fun s => ?_
  cases s.mods[m]? with
  | none => exact .done _
  | some md =>
    refine .refuse _ fun _ => ?_
    split
    · exact .seq (.quietS (quiet_removeSrc m _)) fun _ => .done _
    · exact .done _

theorem apiSrcLen_keeps (m : ModId) : Keeps P (apiSrcLen m) := by
  refine guarded_keeps _ _ _ _ _ <| .read fun s => ?_
  cases s.mods[m]? <;> exact .done _

theorem modByName_none_free (s : St) (n : String) (h : s.modByName n = none) :
    ∀ (k : Nat) (g : Sig), s.sigs[k]? = some g → g.inCtx = true → g.name ≠ n := by
  intro k g hk hin hname
  obtain ⟨md, hm, rfl⟩ := mod_of_sig hk
  have := List.findIdx?_eq_none_iff.mp h md (List.mem_of_getElem? hm)
  simp [Mod.sig] at hin hname
  simp [hin, hname] at this

theorem append_keeps {s : St} {c : Ctx} (md : Mod) (hc : s.ctx = some c) (hfree : s.modByName md.name = none)
    (hst : md.state = .idle) (hin : md.inCtx = true) (hcid : md.ctxId = c.id) :
    Keeps (fun s' => s = s' ∧ P s') (modify fun s => { s with mods := s.mods ++ [md] }) :=
  Triple.mod _ fun _ hI ⟨he, _⟩ => by
    subst he
    exact ⟨inv_append md hI hst hin (hcid ▸ hI.fresh.2 c hc) (modByName_none_free _ _ hfree), mono_append _ md, trivial⟩

theorem apiRegister_keeps (name : String) (slot : Nat) (flags : ModFlags) (hooks : Hooks) : Keeps P (apiRegister name slot flags hooks) := by
  unfold apiRegister
  refine
    .refuse _ fun _ =>
    .read fun s => ?_
  cases mctx s with
  | none => exact .done _
  | some c =>
    refine .refuse _ fun _ => ?_
    -- the tail of `apiRegister` after the optional replacement of a module of that name, literally: every branch below ends in it
    have hgo : ∀ {P}, Keeps P (do
        let s ← getSt
        if (s.modByName name).isSome then pure (-12)
        else match s.ctx with
          | some c' =>
            if c'.id == c.id then do
              Lm.Core.modify fun s => { s with mods := s.mods ++ [{ name := name, slot := slot, ctxId := c'.id, flags := flags, hooks := hooks }] }
              pure 0
            else do Lm.Core.modify fun s => s.emit (.note "CTX-CHANGED-DURING-REGISTER"); pure (-12)
          | none => do Lm.Core.modify fun s => s.emit (.note "CTX-CHANGED-DURING-REGISTER"); pure (-12) : Prog Int) := by
      refine
        .read fun s1 =>
        .refuse _ fun hfree => ?_
      cases hc1 : s1.ctx with
      | none => exact .seq (.quietS (quiet_emit _)) fun _ => .done _
      | some c' =>
        exact
          .ite _
            (fun _ =>
              .seq (append_keeps _ hc1 (by simpa using hfree) rfl rfl rfl) fun _ =>
              .done _)
            fun _ =>
          .seq (.quietS (quiet_emit _)) fun _ =>
          .done _
    cases s.modByName name with
    | none => exact hgo
    | some old =>
      simp only
      cases s.mods[old]? with
      | none => exact hgo
      | some omd =>
        exact
          .refuse _ fun _ =>
          .seq (.updCtx _ fun _ => ⟨rfl, rfl⟩) fun _ =>
          .seq (modDeregCore_keeps _ (.done _) old) fun r =>
          .seq (.updCtx _ fun _ => ⟨rfl, rfl⟩) fun _ =>
          .refuse _ fun _ =>
          hgo

theorem apiCtxRegister_keeps (persist : Bool) : Keeps P (apiCtxRegister persist) := by
  unfold apiCtxRegister
  refine .read fun s => ?_
  cases hc : s.ctx with
  | some c => exact .done _
  | none =>
    exact
      .bind (.setCalm _ rfl fun hI => inv_ctx_new s { persist := persist, id := s.nextCtx } hI rfl rfl) fun _ =>
      .done _

theorem apiQuit_keeps (code : Nat) : Keeps P (apiQuit code) := by
  unfold apiQuit
  refine .read fun s => ?_
  cases mctx s with
  | none => exact .done _
  | some c =>
    exact
      .refuse _ fun _ =>
      .seq (.updCtx _ fun _ => ⟨rfl, rfl⟩) fun _ =>
      .done _

theorem apiFinalize_keeps : Keeps P apiFinalize := by
  unfold apiFinalize
  refine .read fun s => ?_
  cases mctx s with
  | none => exact .done _
  | some c => exact .seq (.updCtx _ fun _ => ⟨rfl, rfl⟩) fun _ => .done _

theorem apiCtxLen_keeps : Keeps P apiCtxLen := by
  unfold apiCtxLen
  refine .read fun s => ?_
  cases mctx s <;> exact .done _

theorem apiSetTick_keeps (ns : Nat) : Keeps P (apiSetTick ns) := by
  unfold apiSetTick
  refine .read fun s => ?_
  cases mctx s with
  | none => exact .done _
  | some c => exact .seq (.updCtx _ fun _ => ⟨rfl, rfl⟩) fun _ => .done _

theorem quiet_ghost (h : St → List (String × Nat)) (r u : St → List ModId) :
    Quiet fun s => { s with handles := h s, released := r s, unrefd := u s } :=
  ⟨fun _ => rfl, fun _ => rfl, fun _ => rfl, fun _ => rfl, fun _ => rfl⟩

theorem ghost_keeps (c : Prop) [Decidable c] {g : St → St} (hg : Quiet g) : Keeps P (modify fun s => if c then g s else s) :=
  .quietS (Quiet.ite c hg Quiet.id)

theorem apiProg_keeps (c : Cfg) : ∀ op, Spec (apiProg c op)
  | .ctxReg p => apiCtxRegister_keeps p
  | .ctxDereg => ctxDeregisterP_keeps
  | .finalize => apiFinalize_keeps
  | .dispatch => apiDispatch_keeps
  | .loop => apiLoop_keeps
  | .quit code => apiQuit_keeps code
  | .ctxLen => apiCtxLen_keeps
  | .setTick ns => apiSetTick_keeps ns
  | .reg _ name slot flags hooks =>
    .seq (apiRegister_keeps name slot flags hooks) fun _ =>
    .seq (ghost_keeps _ (quiet_ghost _ _ _)) fun _ =>
    .done _
  | .dereg m =>
    .seq (modDeregisterP_keeps m) fun _ =>
    .seq (ghost_keeps _ (quiet_ghost _ _ _)) fun _ =>
    .done _
  | .unref _ =>
    .seq (.quietS (quiet_ghost _ _ _)) fun _ =>
    .done _
  | .start m => apiStart_keeps m
  | .pause m => apiPause_keeps m
  | .resume m => apiResume_keeps m
  | .stop m => apiStop_keeps m
  | .become m h => apiBecome_keeps m h
  | .unbecome m => apiUnbecome_keeps m
  | .stash m _ => apiStash_keeps m _
  | .unstash m n => apiUnstash_keeps m n
  | .batchSize m n => apiBatchSize_keeps m n
  | .batchTimeout m ns => apiBatchTimeout_keeps m ns
  | .tokenBucket m r b => apiTokenBucket_keeps m r b
  | .tell m r p af => apiTell_keeps m r p af
  | .publish m t p af => apiPublish_keeps m t p af
  | .pill m r => apiPill_keeps m r
  | .burst m r p af n => burstP_keeps m r af n p 0
  | .subscribe m t sl p pb os u => apiSubscribe_keeps m t sl p pb os u
  | .unsubscribe m t => apiUnsubscribe_keeps m t
  | .regSrc m ok x pb => apiRegSrc_keeps m ok x pb
  | .deregSrc m ok k key => apiDeregSrc_keeps m ok k key
  | .srcLen m => apiSrcLen_keeps m
  | .errno _ | .ret _ | .foreign _ _ | .xtell _ _ _ => .done _

end

theorem apiProg_safe (c : Cfg) (op : Op) : SafeA Inv Mono (apiProg c op) :=
  fun s hI => wpA_mono _ _ _ _ _ _ _ (fun _ _ h => ⟨h.1, h.2.1⟩) (apiProg_keeps c op s s hI (Mono.refl s) trivial)

/-- **Every configuration reachable by any sequence of script lines** — API calls from outside and
from inside callbacks at any depth, any callback return values — satisfies the invariants. -/
theorem reach_inv (ops : List Op) : CfgOK Inv Mono (run {} ops) :=
  run_ok Inv Mono frameable apiProg_safe ops {} ⟨inv_init, trivial⟩

end Lm.Core
