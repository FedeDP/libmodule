import Lm.Inv.Chain
import Lm.Struct.ListM
/-! One equation per iterator function of the chain models, for the case that matters: a container `q` and an
iterator `it` whose link resolves to index `p`.  The refinement and visiting-order proofs start from these and
never unfold the transcribed functions themselves (except `iterate`, which does not touch the iterator). -/
namespace Lm.Struct

/-- Where `itr_new` / `itr_next` followed by the harness's `get_data` leave things: on the element of index `p`,
reached through the link of `it`, or, behind the last element, with the iterator freed. -/
def settleAt (q : Cont) (log : List Ev) (it : Itr) (p : Nat) : St :=
  match q.chain[p]? with
  | some nd => ⟨some q, some it, log ++ [Ev.cur (some nd)], false⟩
  | none => ⟨some q, none, log, false⟩

theorem noteCur_itrNew {q : Cont} (hl : q.len = q.chain.length) (itr : Option Itr) (log : List Ev) :
    noteCur (itrNew ⟨some q, itr, log, false⟩) = (settleAt q log { elem := .head } 0, .handle (!q.chain.isEmpty)) := by
  cases hc : q.chain <;> simp [itrNew, cLen, hl, hc, noteCur, settleAt, linkPos]

theorem noteCur_itrNext {q : Cont} {it : Itr} {p : Nat} (hn : (ids q.chain).Nodup)
    (hp : linkPos q.chain it.elem = some p) (hlt : it.removed = false → p < q.chain.length) (log : List Ev) :
    ∃ l, linkPos q.chain l = some (if it.removed then p else p + 1) ∧
      noteCur (itrNext ⟨some q, some it, log, false⟩) =
        (settleAt q log { it with elem := l, removed := false } (if it.removed then p else p + 1), .int 0) := by
  cases hr : it.removed with
  | true =>
    refine ⟨it.elem, hp, ?_⟩
    cases hnx : q.chain[p]? <;> simp [itrNext, hp, hr, hnx, settleAt, noteCur]
  | false =>
    have hlt := hlt hr
    have hnd := List.getElem?_eq_getElem hlt
    have hl := linkPos_after_getElem hn hnd
    refine ⟨_, hl, ?_⟩
    cases hnx : q.chain[p + 1]? <;> simp [itrNext, hp, hr, hnd, hnx, settleAt, noteCur, hl]

theorem itrGet_live {q : Cont} {it : Itr} {p : Nat} (hp : linkPos q.chain it.elem = some p)
    (hlt : it.removed = false → p < q.chain.length) (log : List Ev) (f : Bool) :
    itrGet ⟨some q, some it, log, f⟩ =
      (⟨some q, some it, log, f⟩, .ptr (if it.removed then 0 else ((vals q.chain)[p]?).getD 0)) := by
  cases hr : it.removed with
  | true => simp [itrGet, hr]
  | false => simp [itrGet, hr, hp, List.getElem?_eq_getElem (hlt hr), vals]

theorem itrSet_live {q : Cont} {it : Itr} {p : Nat} (hp : linkPos q.chain it.elem = some p)
    (hlt : it.removed = false → p < q.chain.length) (log : List Ev) (f : Bool) (v : Val) :
    itrSet ⟨some q, some it, log, f⟩ v =
      if it.removed ∨ v = 0 then (⟨some q, some it, log, f⟩, .int EINVAL)
      else (⟨some { q with chain := setAt q.chain p v }, some it, log, f⟩, .int 0) := by
  cases hr : it.removed with
  | true => simp [itrSet, hr]
  | false => by_cases hv : v = 0 <;> simp [itrSet, hr, hv, hp, List.getElem?_eq_getElem (hlt hr)]

theorem itrRemove_removed {it : Itr} (hr : it.removed = true) (obj : Option Cont) (log : List Ev) (f : Bool) :
    itrRemove ⟨obj, some it, log, f⟩ = (⟨obj, some it, log, f⟩, .int EINVAL) := by
  simp [itrRemove, hr]

theorem itrRemove_live {q : Cont} {it : Itr} {p : Nat} {tmp : Node} (hp : linkPos q.chain it.elem = some p)
    (hr : it.removed = false) (hnd : q.chain[p]? = some tmp) (log : List Ev) (f : Bool) :
    itrRemove ⟨some q, some it, log, f⟩ =
      (⟨some { q with chain := eraseAt q.chain p, len := q.len - 1,
                      tail := if q.tail = some tmp.id then it.elem.owner else q.tail },
        some { it with removed := true }, callDtor q.dtor log tmp.val, f⟩, .int 0) := by
  simp [itrRemove, hr, hp, hnd]

theorem peek_obj {q : Cont} (hl : q.len = q.chain.length) (itr : Option Itr) (log : List Ev) (f : Bool) :
    peek ⟨some q, itr, log, f⟩ = (⟨some q, itr, log, f⟩, .ptr (((vals q.chain)[0]?).getD 0)) := by
  cases hc : q.chain <;> simp [peek, cLen, hl, hc, vals]

namespace ListM

theorem advance_spec {c : Chain} (hn : (ids c).Nodup) : ∀ (k : Nat) (l : Link) (p : Nat), linkPos c l = some p →
    linkPos c (advance c k (l, p)).1 = some (advance c k (l, p)).2 ∧ (advance c k (l, p)).2 = min (p + k) c.length
  | 0, l, p, h => ⟨h, (Nat.min_eq_left (linkPos_le h)).symm⟩
  | k + 1, l, p, h => by
    unfold advance
    cases hc : c[p]? with
    | none => exact ⟨h, by have := linkPos_le h; have := List.getElem?_eq_none_iff.mp hc; simp only; omega⟩
    | some nd =>
      have ih := advance_spec hn k (.after nd.id) (p + 1) (linkPos_after_getElem hn hc)
      exact ⟨ih.1, ih.2.trans (by rw [Nat.add_right_comm, Nat.add_assoc])⟩

theorem next_link {c : Chain} (hn : (ids c).Nodup) {l : Link} {p : Nat} (hp : linkPos c l = some p) (d : Int) :
    ∀ {lp}, (if (c[p]?).isSome ∧ d ≥ 0 then advance c (d.toNat + 1) (l, p) else (l, p)) = lp →
    linkPos c lp.1 = some lp.2 ∧ lp.2 = if p < c.length ∧ d ≥ 0 then min (p + d.toNat + 1) c.length else p := by
  simp only [isSome_getElem?]
  intro lp e; subst e
  split
  · exact advance_spec hn (d.toNat + 1) l p hp
  · exact ⟨hp, rfl⟩

theorem noteCur_itrNew {q : Cont} (hl : q.len = q.chain.length) (itr : Option Itr) (log : List Ev) :
    noteCur (itrNew ⟨some q, itr, log, false⟩) = (settleAt q log { elem := .head } 0, .handle (!q.chain.isEmpty)) := by
  cases hc : q.chain <;> simp [itrNew, Lm.Struct.itrNew, cLen, hl, hc, noteCur, settleAt, linkPos]

/-- `next` skips the current element and the `diff` nodes inserted in front of it; after a removal
(`diff < 0`) the link already is on the next element -/
theorem noteCur_itrNext {q : Cont} {it : Itr} {p : Nat} (hn : (ids q.chain).Nodup)
    (hp : linkPos q.chain it.elem = some p) (log : List Ev) :
    ∃ l p', p' = (if p < q.chain.length ∧ it.diff ≥ 0 then min (p + it.diff.toNat + 1) q.chain.length else p) ∧
      linkPos q.chain l = some p' ∧
      noteCur (itrNext ⟨some q, some it, log, false⟩) = (settleAt q log { it with elem := l, diff := 0 } p', .int 0) := by
  simp only [itrNext, hp]
  generalize hlp : (if (q.chain[p]?).isSome ∧ it.diff ≥ 0 then advance q.chain (it.diff.toNat + 1) (it.elem, p)
            else (it.elem, p)) = lp
  have h := next_link hn hp it.diff hlp
  refine ⟨lp.1, lp.2, h.2, h.1, ?_⟩
  cases hnx : q.chain[lp.2]? <;> simp [noteCur, settleAt, h.1, hnx]

theorem itrGet_live {q : Cont} {it : Itr} {p : Nat} (hp : linkPos q.chain it.elem = some p) (log : List Ev) (f : Bool) :
    itrGet ⟨some q, some it, log, f⟩ = (⟨some q, some it, log, f⟩, .ptr (((vals q.chain)[p]?).getD 0)) := by
  cases hnd : q.chain[p]? <;> simp [itrGet, hp, hnd, vals]

theorem itrSet_live {q : Cont} {it : Itr} {p : Nat} (hp : linkPos q.chain it.elem = some p) (log : List Ev) (f : Bool)
    (v : Val) :
    itrSet ⟨some q, some it, log, f⟩ v =
      if v = 0 ∨ p ≥ q.chain.length then (⟨some q, some it, log, f⟩, .int EINVAL)
      else (⟨some { q with chain := setAt q.chain p v }, some it, log, f⟩, .int 0) := by
  by_cases hv : v = 0
  · simp [itrSet, hv]
  · cases hnd : q.chain[p]? with
    | none => simp [itrSet, hv, hp, List.getElem?_eq_none_iff.mp hnd]
    | some nd => simp [itrSet, hv, hp, hnd, Nat.not_le.mpr (lt_of_getElem?_some hnd)]

theorem itrInsert_live {q : Cont} {it : Itr} {p : Nat} (hp : linkPos q.chain it.elem = some p) (log : List Ev)
    (f : Bool) (v : Val) :
    itrInsert ⟨some q, some it, log, f⟩ v =
      if v = 0 then (⟨some q, some it, log, f⟩, .int EINVAL)
      else (⟨some (insertNode q p v), some { it with diff := it.diff + 1 }, log, f⟩, .int 0) := by
  by_cases hv : v = 0 <;> simp [itrInsert, hv, hp]

theorem itrRemove_live {q : Cont} {it : Itr} {p : Nat} (hp : linkPos q.chain it.elem = some p) (log : List Ev)
    (f : Bool) :
    itrRemove ⟨some q, some it, log, f⟩ =
      match q.chain[p]? with
      | some tmp => (⟨some { q with chain := eraseAt q.chain p, len := q.len - 1 }, some { it with diff := it.diff - 1 },
                      callDtor q.dtor log tmp.val, f⟩, .int 0)
      | none => (⟨some q, some it, log, f⟩, .int EINVAL) := by
  cases hnd : q.chain[p]? <;> simp [itrRemove, hp, removeNode, hnd]

end ListM
end Lm.Struct
