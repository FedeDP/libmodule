import Lm.Inv.ChainOps
import Lm.Inv.C12Dtor
/-! The chain models refine the array machines of `Lm.Spec.C12`.  `R k s a`: the model state `s` (nodes,
links, tail pointer, `len` field) represents the array state `a`, the container is well formed (the
queue's tail pointer included) and the iterator's link resolves to the cursor index.  Every API
function preserves `R` and returns what the array machine returns. -/
namespace Lm.Struct
open Lm.Spec.C12

inductive Kind | queue | stack | list
  deriving DecidableEq, Repr

def absEv : Ev → AEv
  | .dtor v => .dtor v
  | .cur nd => .cur (nd.map (·.val))
  | .cb vs => .cb vs

def tailOK (k : Kind) (q : Cont) : Prop := q.tail = (match k with | .queue => lastId q.chain | _ => none)

def ItrR (k : Kind) (c : Chain) (it : Itr) (ac : ACur) : Prop :=
  linkPos c it.elem = some ac.pos ∧ ac.removed = it.removed ∧ ac.diff = it.diff ∧
  (match k with
   | .list => it.removed = false
   | _ => it.diff = 0 ∧ (it.removed = false → ac.pos < c.length))

def R (k : Kind) (s : St) (a : ASt) : Prop :=
  s.fault = false ∧ a.out = s.log.map absEv ∧
  match s.obj with
  | none => a.alive = false ∧ a.xs = [] ∧ a.cur = none ∧ s.itr = none
  | some q => a.alive = true ∧ a.dtor = q.dtor ∧ a.cmp = q.cmp ∧ a.xs = vals q.chain ∧ q.WF ∧ tailOK k q ∧
      match s.itr with
      | none => a.cur = none
      | some it => ∃ ac, a.cur = some ac ∧ ItrR k q.chain it ac

def absOf (q : Cont) (log : List Ev) (cur : Option ACur) : ASt :=
  { alive := true, dtor := q.dtor, cmp := q.cmp, xs := vals q.chain, cur := cur, out := log.map absEv }

/-- what `ItrR` asks of a live iterator beyond its position -/
def OnElem (k : Kind) (c : Chain) (it : Itr) (p : Nat) : Prop :=
  match k with
  | .list => it.removed = false
  | _ => it.diff = 0 ∧ (it.removed = false → p < c.length)

theorem OnElem.nl {k : Kind} (hk : k ≠ .list) {c : Chain} {it : Itr} {p : Nat} (h : OnElem k c it p) :
    it.diff = 0 ∧ (it.removed = false → p < c.length) := by
  cases k with
  | list => exact absurd rfl hk
  | _ => exact h

theorem OnElem.of_nl {k : Kind} (hk : k ≠ .list) {c : Chain} {it : Itr} {p : Nat} (hd : it.diff = 0)
    (hlt : it.removed = false → p < c.length) : OnElem k c it p := by
  cases k with
  | list => exact absurd rfl hk
  | _ => exact ⟨hd, hlt⟩

theorem OnElem.mono {k : Kind} {c c' : Chain} {it : Itr} {p : Nat} (h : OnElem k c it p) (hl : c.length ≤ c'.length) :
    OnElem k c' it p := by
  cases k with
  | list => exact h
  | _ => exact ⟨h.1, fun e => Nat.lt_of_lt_of_le (h.2 e) hl⟩

theorem R.dead {k : Kind} {log : List Ev} {d c : Bool} :
    R k ⟨none, none, log, false⟩ ⟨false, d, c, [], none, log.map absEv⟩ :=
  ⟨rfl, rfl, rfl, rfl, rfl, rfl⟩

theorem R.idle {k : Kind} {q : Cont} {log : List Ev} (wf : q.WF) (tl : tailOK k q) :
    R k ⟨some q, none, log, false⟩ (absOf q log none) :=
  ⟨rfl, rfl, rfl, rfl, rfl, rfl, wf, tl, rfl⟩

theorem R.live {k : Kind} {q : Cont} {it : Itr} {log : List Ev} {p : Nat} {r : Bool} {d : Int} (wf : q.WF)
    (tl : tailOK k q) (hp : linkPos q.chain it.elem = some p) (hr : it.removed = r) (hd : it.diff = d)
    (hs : OnElem k q.chain it p) : R k ⟨some q, some it, log, false⟩ (absOf q log (some ⟨p, r, d⟩)) :=
  ⟨rfl, rfl, rfl, rfl, rfl, rfl, wf, tl, _, rfl, hp, hr.symm, hd.symm, hs⟩

/-- the three shapes of related states, the ones `R.dead`, `R.idle`, `R.live` build -/
@[elab_as_elim]
theorem R.cases {k : Kind} {motive : St → ASt → Prop} {s : St} {a : ASt} (h : R k s a)
    (dead : ∀ log d c, motive ⟨none, none, log, false⟩ ⟨false, d, c, [], none, log.map absEv⟩)
    (idle : ∀ q log, q.WF → tailOK k q → motive ⟨some q, none, log, false⟩ (absOf q log none))
    (live : ∀ q it log p r d, q.WF → tailOK k q → linkPos q.chain it.elem = some p → it.removed = r → it.diff = d →
      OnElem k q.chain it p → motive ⟨some q, some it, log, false⟩ (absOf q log (some ⟨p, r, d⟩))) :
    motive s a := by
  obtain ⟨alive, dt, cmp, xs, cur, out⟩ := a
  obtain ⟨obj, itr, log, fault⟩ := s
  cases obj with
  | none =>
    obtain ⟨rfl, rfl, rfl, rfl, rfl, rfl⟩ := h
    exact dead ..
  | some q =>
    obtain ⟨rfl, rfl, rfl, rfl, rfl, rfl, wf, tl, hi⟩ := h
    cases itr with
    | none => cases hi; exact idle _ _ wf tl
    | some it =>
      obtain ⟨⟨p, r, d⟩, rfl, hp, hr, hd, hs⟩ := hi
      exact live _ _ _ _ _ _ wf tl hp hr.symm hd.symm hs

/-- `R.cases` for the calls that do not look at the iterator -/
@[elab_as_elim]
theorem R.objCases {k : Kind} {motive : St → ASt → Prop} {s : St} {a : ASt} (h : R k s a)
    (dead : ∀ log d c, motive ⟨none, none, log, false⟩ ⟨false, d, c, [], none, log.map absEv⟩)
    (obj : ∀ q itr log cur, q.WF → tailOK k q → R k ⟨some q, itr, log, false⟩ (absOf q log cur) →
      motive ⟨some q, itr, log, false⟩ (absOf q log cur)) : motive s a :=
  h.cases dead (fun _ _ wf tl => obj _ _ _ _ wf tl (R.idle wf tl))
    (fun _ _ _ _ _ _ wf tl hp hr hd hs => obj _ _ _ _ wf tl (R.live wf tl hp hr hd hs))

/-- `R.cases` for the calls that relink nodes -/
@[elab_as_elim]
theorem R.noItrCases {k : Kind} {motive : St → ASt → Prop} {s : St} {a : ASt} (h : R k s a) (hi : s.itr = none)
    (dead : ∀ log d c, motive ⟨none, none, log, false⟩ ⟨false, d, c, [], none, log.map absEv⟩)
    (idle : ∀ q log, q.WF → tailOK k q → motive ⟨some q, none, log, false⟩ (absOf q log none)) : motive s a := by
  revert hi
  exact h.cases (fun _ _ _ _ => dead ..) (fun _ _ wf tl _ => idle _ _ wf tl) (fun _ _ _ _ _ _ _ _ _ _ _ _ hi => nomatch hi)

/-- the shape of `okOp` in the three models: a call that `mutates` (`m`) is permitted only while no
iterator is live -/
theorem itr_none_of_ok {m : Bool} {itr : Option Itr} (h : (!(m && itr.isSome)) = true) (hm : m = true) : itr = none := by
  subst hm; simpa using h

theorem R.noItr {k : Kind} {s : St} {a : ASt} (h : R k s a) : R k { s with itr := none } { a with cur := none } :=
  h.cases (fun _ _ _ => R.dead) (fun _ _ wf tl => R.idle wf tl) (fun _ _ _ _ _ _ wf tl _ _ _ _ => R.idle wf tl)

theorem R.freed {k : Kind} {s : St} {a : ASt} (h : R k s a) (hi : s.itr = none) :
    R k { s with obj := none } { a with alive := false, xs := [], cur := none } :=
  ⟨h.1, h.2.1, rfl, rfl, rfl, hi⟩

theorem R_itr_none {k : Kind} {s : St} {a : ASt} (h : R k s a) (hc : a.cur = none) : s.itr = none := by
  revert hc
  exact h.cases (fun _ _ _ _ => rfl) (fun _ _ _ _ _ => rfl) (fun _ _ _ _ _ _ _ _ _ _ _ _ hc => nomatch hc)

theorem R_alive {k : Kind} {s : St} {a : ASt} (h : R k s a) : a.alive = s.obj.isSome :=
  h.objCases (fun _ _ _ => rfl) fun _ _ _ _ _ _ _ => rfl

theorem itNew_eq (a : ASt) : itNew a = ((settle a 0).1, .handle (!a.xs.isEmpty)) := by
  unfold itNew settle; cases a.xs <;> rfl

theorem settle_snd (a : ASt) (p : Nat) : (settle a p).2 = .int 0 := by
  unfold settle; split <;> rfl

theorem settleAt_R {k : Kind} {q : Cont} {it : Itr} {p : Nat} (wf : q.WF) (tl : tailOK k q)
    (hp : linkPos q.chain it.elem = some p) (hr : it.removed = false) (hd : it.diff = 0) (log : List Ev)
    (cur : Option ACur) : R k (settleAt q log it p) (settle (absOf q log cur) p).1 := by
  unfold settleAt settle
  cases hnd : q.chain[p]? with
  | none => simp only [absOf, vals_getElem?, hnd]; exact R.idle wf tl
  | some nd =>
    have := R.live (k := k) (log := log ++ [Ev.cur (some nd)]) wf tl hp hr hd
      (by cases k with
          | list => exact hr
          | _ => exact ⟨hd, fun _ => lt_of_getElem?_some hnd⟩)
    simpa [absOf, vals_getElem?, hnd, absEv] using this

theorem itrNew_R {k : Kind} {s : St} {a : ASt} (h : R k s a) :
    R k (noteCur (itrNew s)).1 (itNew a).1 ∧ (noteCur (itrNew s)).2 = (itNew a).2 := by
  refine h.objCases (fun _ _ _ => ⟨R.dead, rfl⟩) fun q itr log cur wf tl _ => ?_
  rw [noteCur_itrNew wf.len, itNew_eq]
  exact ⟨settleAt_R wf tl rfl rfl rfl log cur, by simp [absOf, vals]⟩

theorem itrNext_R {k : Kind} (hk : k ≠ .list) {s : St} {a : ASt} (h : R k s a) :
    R k (noteCur (itrNext s)).1 (itNext a).1 ∧ (noteCur (itrNext s)).2 = (itNext a).2 := by
  refine h.cases (fun _ _ _ => ⟨R.dead, rfl⟩) (fun q log wf tl => ⟨R.idle wf tl, rfl⟩) ?_
  intro q it log p r d wf tl hp hr hd hs
  obtain ⟨l, hl, e⟩ := noteCur_itrNext wf.nodup hp (hs.nl hk).2 log
  rw [e, hr] at *
  exact ⟨settleAt_R (it := { it with elem := l, removed := false }) wf tl hl rfl (hs.nl hk).1 log _, (settle_snd ..).symm⟩

theorem itGet_fst (a : ASt) : (itGet a).1 = a := by
  unfold itGet; split; rfl; split; rfl; split <;> rfl

theorem itGet_snd (q : Cont) (log : List Ev) (p : Nat) (r : Bool) (d : Int) :
    (itGet (absOf q log (some ⟨p, r, d⟩))).2 = .ptr (if r then 0 else ((vals q.chain)[p]?).getD 0) := by
  cases r <;> simp only [itGet, absOf]
  · cases (vals q.chain)[p]? <;> rfl
  · rfl

theorem itrGet_R {k : Kind} (hk : k ≠ .list) {s : St} {a : ASt} (h : R k s a) :
    R k (itrGet s).1 (itGet a).1 ∧ (itrGet s).2 = (itGet a).2 := by
  refine h.cases (fun _ _ _ => ⟨R.dead, rfl⟩) (fun q log wf tl => ⟨R.idle wf tl, rfl⟩) ?_
  intro q it log p r d wf tl hp hr hd hs
  rw [itrGet_live hp (hs.nl hk).2, hr, itGet_fst]
  exact ⟨R.live wf tl hp hr hd hs, (itGet_snd ..).symm⟩

theorem tailOK_setAt {k : Kind} {q : Cont} (tl : tailOK k q) (p : Nat) (v : Val) :
    tailOK k { q with chain := setAt q.chain p v } := by
  cases k <;> simp only [tailOK, lastId_setAt] at tl ⊢ <;> exact tl

theorem itrSet_R {k : Kind} (hk : k ≠ .list) {s : St} {a : ASt} (v : Val) (h : R k s a) :
    R k (itrSet s v).1 (itSet a v).1 ∧ (itrSet s v).2 = (itSet a v).2 := by
  refine h.cases (fun _ _ _ => ⟨R.dead, rfl⟩) (fun q log wf tl => ⟨R.idle wf tl, rfl⟩) ?_
  intro q it log p r d wf tl hp hr hd hs
  rw [itrSet_live hp (hs.nl hk).2, hr]
  by_cases hg : r = true ∨ v = 0
  · simp only [itSet, absOf, hg, if_true]; exact ⟨R.live wf tl hp hr hd hs, trivial⟩
  · have hv : v ≠ 0 := fun e => hg (Or.inr e)
    have := R.live (log := log) (wf.set p hv) (tailOK_setAt tl p v) ((linkPos_setAt ..).trans hp) hr hd
      (hs.mono (Nat.le_of_eq (length_setAt ..).symm))
    simp only [itSet, absOf, hg, if_false]
    exact ⟨by simpa [absOf, vals_setAt] using this, trivial⟩

theorem absEv_callDtor (d : Bool) (log : List Ev) (v : Val) :
    (callDtor d log v).map absEv = log.map absEv ++ drop d [v] := by
  cases d <;> simp [callDtor, drop, absEv]

/-- the tail update of `m_queue_itr_remove` (D-12a) leaves `tail` on the last node -/
theorem tailOK_erase {k : Kind} {q : Cont} (wf : q.WF) (tl : tailOK k q) {p : Nat} {tmp : Node}
    (hnd : q.chain[p]? = some tmp) {l : Link} (hl : linkPos q.chain l = some p) :
    tailOK k { q with chain := eraseAt q.chain p, len := q.len - 1,
                      tail := if q.tail = some tmp.id then l.owner else q.tail } := by
  have hp := lt_of_getElem?_some hnd
  cases k with
  | queue =>
    simp only [tailOK] at tl ⊢
    by_cases ht : q.tail = some tmp.id
    · have := last_unique wf.nodup hnd (tl ▸ ht)
      simp only [ht, if_true]
      exact (lastId_eraseAt_last hl this).symm
    · have hne : p + 1 ≠ q.chain.length := fun e => ht (tl ▸ lastId_of_last hnd e)
      simp only [ht, if_false]
      rw [lastId_eraseAt_of_lt (by omega)]
      exact tl
  | _ => simp only [tailOK] at tl ⊢; simp [tl]

theorem itrRemove_R {k : Kind} (hk : k ≠ .list) {s : St} {a : ASt} (h : R k s a) :
    R k (itrRemove s).1 (itRm a).1 ∧ (itrRemove s).2 = (itRm a).2 := by
  refine h.cases (fun _ _ _ => ⟨R.dead, rfl⟩) (fun q log wf tl => ⟨R.idle wf tl, rfl⟩) ?_
  intro q it log p r d wf tl hp hr hd hs
  cases r with
  | true => rw [itrRemove_removed hr]; exact ⟨R.live wf tl hp hr hd hs, rfl⟩
  | false =>
    have hlt := (hs.nl hk).2 hr
    have hnd := List.getElem?_eq_getElem hlt
    have := R.live (it := { it with removed := true }) (log := callDtor q.dtor log q.chain[p].val) (wf.erase hlt _)
      (tailOK_erase wf tl hnd hp) (linkPos_eraseAt hp) rfl hd (.of_nl hk (hs.nl hk).1 fun e => nomatch e)
    rw [itrRemove_live hp hr hnd]
    simp only [itRm, absOf, vals_getElem?, hnd]
    exact ⟨by simpa [absOf, vals_eraseAt, absEv_callDtor] using this, rfl⟩

theorem R_len {k : Kind} {s : St} {a : ASt} (h : R k s a) : cLen s.obj = len a :=
  h.objCases (fun _ _ _ => rfl) fun q _ _ _ wf _ _ => by simp [cLen, len, absOf, wf.len, vals]

theorem R_len_some {k : Kind} {s : St} {a : ASt} {q : Cont} (h : R k s a) (ho : s.obj = some q) : q.len = a.xs.length := by
  revert ho
  exact h.objCases (fun _ _ _ ho => nomatch ho) fun _ _ _ _ wf _ _ ho => by cases ho; exact wf.len.trans (vals_length _).symm

theorem R_cLen_pos {k : Kind} {s : St} {a : ASt} (h : R k s a) : cLen s.obj > 0 ↔ a.xs ≠ [] := by
  refine h.objCases (fun _ _ _ => by simp [cLen, EINVAL]) fun q _ _ _ wf _ _ => ?_
  cases hc : q.chain <;> simp [cLen, absOf, wf.len, vals, hc]

theorem peek_eq (a : ASt) : Lm.Spec.C12.peek a = (a, .ptr ((a.xs[0]?).getD 0)) := by
  unfold Lm.Spec.C12.peek; cases a.xs <;> rfl

theorem peek_R {k : Kind} {s : St} {a : ASt} (h : R k s a) :
    R k (Lm.Struct.peek s).1 (Lm.Spec.C12.peek a).1 ∧ (Lm.Struct.peek s).2 = (Lm.Spec.C12.peek a).2 := by
  refine h.objCases (fun _ _ _ => ⟨R.dead, rfl⟩) fun q itr log cur wf _ h => ?_
  rw [peek_obj wf.len, peek_eq]; exact ⟨h, rfl⟩

theorem iterate_R {k : Kind} {s : St} {a : ASt} (stop : Option Nat) (h : R k s a) :
    R k (Lm.Struct.iterate s stop).1 (Lm.Spec.C12.iterate a stop).1 ∧
    (Lm.Struct.iterate s stop).2 = (Lm.Spec.C12.iterate a stop).2 := by
  refine h.objCases (fun _ _ _ => ⟨R.dead, rfl⟩) fun q itr log cur wf _ h => ?_
  cases hc : q.chain with
  | nil => simpa [Lm.Struct.iterate, Lm.Spec.C12.iterate, cLen, wf.len, absOf, vals, hc] using h
  | cons nd rest =>
    -- `R` looks at the log only through `out`
    have h' : ∀ vs, R k ⟨some q, itr, log ++ [Ev.cb vs], false⟩
        { absOf q log cur with out := log.map absEv ++ [AEv.cb vs] } :=
      fun _ => ⟨rfl, by simp [absEv], h.2.2⟩
    cases stop <;> simpa [Lm.Struct.iterate, Lm.Spec.C12.iterate, cLen, wf.len, absOf, vals, hc] using h' _

structure WellFormed (k : Kind) (s : St) : Prop where
  nofault : s.fault = false
  /-- the last clause: the queue's `tail` names the last node (is NULL iff the queue is empty) -/
  cont : ∀ q, s.obj = some q → q.len = q.chain.length ∧ (ids q.chain).Nodup ∧ (∀ nd ∈ q.chain, nd.val ≠ 0) ∧
    (k = .queue → q.tail = lastId q.chain)
  /-- a live iterator points at a link of the chain (never into a freed node); for queue and stack
  it is on an element unless that element was just removed through it -/
  itr : ∀ q it, s.obj = some q → s.itr = some it → ∃ p, linkPos q.chain it.elem = some p ∧ p ≤ q.chain.length ∧
    (k ≠ .list → it.removed = false → p < q.chain.length)
  /-- no iterator outlives its container -/
  noitr : s.obj = none → s.itr = none

theorem wellFormed_of_R {k : Kind} {s : St} {a : ASt} (h : R k s a) : WellFormed k s := by
  refine h.cases ?_ ?_ ?_
  · intro log _ _
    exact ⟨rfl, (fun _ e => nomatch e), (fun _ _ e => nomatch e), fun _ => rfl⟩
  · intro q log wf tl
    refine ⟨rfl, ?_, (fun _ _ _ e => nomatch e), (fun e => nomatch e)⟩
    intro q' e; cases e
    exact ⟨wf.len, wf.nodup, wf.nonnull, fun hk => by subst hk; exact tl⟩
  · intro q it log p r d wf tl hp _ _ hs
    refine ⟨rfl, ?_, ?_, (fun e => nomatch e)⟩
    · intro q' e; cases e
      exact ⟨wf.len, wf.nodup, wf.nonnull, fun hk => by subst hk; exact tl⟩
    · intro _ _ e e'; cases e; cases e'
      exact ⟨p, hp, linkPos_le hp, fun hk => (hs.nl hk).2⟩

def content (s : St) : List Val := match s.obj with | some q => vals q.chain | none => []

theorem content_of_R {k : Kind} {s : St} {a : ASt} (h : R k s a) : content s = a.xs ∧ s.log.map absEv = a.out :=
  h.objCases (fun _ _ _ => ⟨rfl, rfl⟩) fun _ _ _ _ _ _ _ => ⟨rfl, rfl⟩

end Lm.Struct
