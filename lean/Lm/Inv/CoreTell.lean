import Lm.Core.Lemmas
/-!
# What a send does to the module objects

`tell_if` rewrites the recipient's module object by a function of that object alone (`deliver`) and touches no other; a
walk over the module table therefore rewrites every module it visits once.  Broadcast, publication and system
notification are such walks (C02, C08, C19).
-/
namespace Lm.Core

@[simp] theorem holderRef_mods (s : St) (h) : (holderRef s h).mods = s.mods := by
  obtain ⟨_, e⟩ := holderRef_eq s h; rw [e]

@[simp] theorem holderUnref_mods (s : St) (h) : (holderUnref s h).mods = s.mods := by
  obtain ⟨_, _, e⟩ := holderUnref_eq s h; rw [e]

def deliver (msg : Msg) (key : TellKey) (r : ModId) (md : Mod) : Mod :=
  if md.state == .running || md.state == .paused then
    match md.pipe with
    | some q => if q.length + md.pipeSkip < pipeCap then { md with pipe := some (q ++ [{ msg with sub := key.subOf, rcpt := some r }]) } else md
    | none => md
  else md

theorem deliver_eligible {msg : Msg} {key : TellKey} {r : ModId} {md : Mod} {q : List Msg} (he : md.state = .running ∨ md.state = .paused)
    (hp : md.pipe = some q) (hroom : q.length + md.pipeSkip < pipeCap) :
    deliver msg key r md = { md with pipe := some (q ++ [{ msg with sub := key.subOf, rcpt := some r }]) } := by
  have : (md.state == MState.running || md.state == MState.paused) = true := by rcases he with h | h <;> simp [h]
  simp only [deliver, this, hp, hroom, if_true]

theorem deliver_not_eligible {msg : Msg} {key : TellKey} {r : ModId} {md : Mod} (h : md.state ≠ .running ∧ md.state ≠ .paused) :
    deliver msg key r md = md := by
  simp [deliver, h.1, h.2]

/-- delivery does not change what the walk order of the module table depends on -/
theorem deliver_key (msg : Msg) (key : TellKey) (r : ModId) (md : Mod) :
    (deliver msg key r md).inCtx = md.inCtx ∧ (deliver msg key r md).slot = md.slot := by
  unfold deliver
  split
  · split
    · split <;> exact ⟨rfl, rfl⟩
    · exact ⟨rfl, rfl⟩
  · exact ⟨rfl, rfl⟩

theorem tellIf_mods (s : St) (msg : Msg) (key : TellKey) (r : ModId) : (tellIf s msg key r).mods = s.mods.modify r (deliver msg key r) := by
  unfold tellIf
  cases h : s.mods[r]? with
  | none => exact (List.modify_eq_self (by simpa using h)).symm
  | some md =>
    by_cases he : (md.state == .running || md.state == .paused) = true
    · cases hq : md.pipe with
      | none => simpa [he, hq, destroyMsg] using (List.modify_fix h (by simp [deliver, he, hq])).symm
      | some q =>
        by_cases hroom : q.length + md.pipeSkip < pipeCap
        · simp only [he, hq, hroom, if_true, updMod_eq, holderRef_mods]
          exact List.modify_congr_at h (by simp only [deliver, he, hq, hroom, if_true])
        · simpa [he, hq, hroom, destroyMsg] using (List.modify_fix h (by simp [deliver, he, hq, hroom])).symm
    · simpa [he] using (List.modify_fix h (by simp [deliver, he])).symm

theorem tellIf_self {s : St} {r : ModId} {md : Mod} (msg : Msg) (key : TellKey) (h : s.mods[r]? = some md) :
    (tellIf s msg key r).mods[r]? = some (deliver msg key r md) := by
  rw [tellIf_mods, List.getElem?_modify_eq, h]; rfl

theorem tellIf_srcs (s : St) (msg : Msg) (key : TellKey) (r : ModId) : (tellIf s msg key r).srcs = s.srcs ∧ (tellIf s msg key r).rx = s.rx := by
  obtain ⟨_, hr⟩ := holderRef_eq s msg.holder
  have hu : ∀ c : Msg, (destroyMsg (holderRef s msg.holder) c).srcs = s.srcs ∧ (destroyMsg (holderRef s msg.holder) c).rx = s.rx := fun c => by
    obtain ⟨_, _, e⟩ := holderUnref_eq (holderRef s msg.holder) c.holder
    rw [destroyMsg, e, hr]; exact ⟨rfl, rfl⟩
  unfold tellIf
  split
  · exact ⟨rfl, rfl⟩
  · split
    · simp only
      split
      · split
        · rw [updMod_eq, hr]; exact ⟨rfl, rfl⟩
        · exact hu _
      · exact hu _
    · exact ⟨rfl, rfl⟩

theorem tells_append (r : ModId) (l : List (Msg × TellKey)) : ∀ (s : St) (md : Mod) (q : List Msg), s.mods[r]? = some md →
    (md.state = .running ∨ md.state = .paused) → md.pipe = some q → q.length + l.length + md.pipeSkip ≤ pipeCap →
    (l.foldl (fun s x => tellIf s x.1 x.2 r) s).mods[r]? =
      some { md with pipe := some (q ++ l.map fun x => { x.1 with sub := x.2.subOf, rcpt := some r }) } := by
  induction l with
  | nil => intro s md q hm _ hp _; rw [List.foldl_nil, hm, List.map_nil, List.append_nil, ← hp]
  | cons x l ih =>
    intro s md q hm he hp hroom
    rw [List.length_cons] at hroom
    have h1 := tellIf_self x.1 x.2 hm
    rw [deliver_eligible he hp (by omega)] at h1
    rw [List.foldl_cons, ih _ _ _ h1 he rfl (by simp only [List.length_append, List.length_singleton]; omega),
      List.map_cons, List.append_assoc]
    rfl

theorem walk_mods {step : St → ModId → St} {f : ModId → Mod → Mod} {J : St → Prop}
    (h : ∀ s r, J s → (step s r).mods = s.mods.modify r (f r) ∧ J (step s r)) (l : List ModId) :
    ∀ s : St, J s → l.Nodup →
      (∀ k, (l.foldl step s).mods[k]? = (s.mods[k]?).map fun md => if k ∈ l then f k md else md) ∧ J (l.foldl step s) := by
  induction l with
  | nil => exact fun s hJ _ => ⟨fun k => by simp, hJ⟩
  | cons r rs ih =>
    intro s hJ hn
    have hn' := List.nodup_cons.mp hn
    obtain ⟨ih, ihJ⟩ := ih _ (h s r hJ).2 hn'.2
    refine ⟨fun k => ?_, ihJ⟩
    rw [List.foldl_cons, ih k, (h s r hJ).1, List.getElem?_modify]
    cases s.mods[k]? with
    | none => rfl
    | some md =>
      by_cases hk : r = k
      · subst hk; simp [hn'.1]
      · have : ¬ k = r := fun e => hk e.symm
        simp [hk, this]

/-- no invariant needed: the scan visits each slot once, and two different slots cannot hold the same module -/
theorem tableOrder_nodup (s : St) : s.tableOrder.Nodup := by
  have hscan : s.scanOrder.Nodup := List.pairwise_map.mpr <| List.nodup_range.imp_of_mem fun ha hb hne e => by
    simp only [List.mem_range, tableSize] at ha hb e; omega
  refine hscan.filterMap _ fun a b hab x ha y hb e => hab ?_
  subst e
  obtain ⟨_, h2, _⟩ := List.findIdx?_eq_some_iff_getElem.mp ha
  obtain ⟨_, h3, _⟩ := List.findIdx?_eq_some_iff_getElem.mp hb
  simp only [Bool.and_eq_true, beq_iff_eq] at h2 h3
  rw [← h2.2, ← h3.2]

def tableKey (s : St) : List (Bool × Nat) := s.mods.map fun md => (md.inCtx, md.slot)

theorem tableOrder_key (s s' : St) (h : tableKey s' = tableKey s) : s'.tableOrder = s.tableOrder := by
  have e : ∀ (l : List Mod) i, l.findIdx? (fun md => md.inCtx && md.slot == i) =
      (l.map fun md => (md.inCtx, md.slot)).findIdx? (fun x => x.1 && x.2 == i) := by
    intro l i; rw [List.findIdx?_map]; rfl
  have hm : s'.modAtSlot = s.modAtSlot := funext fun i => by
    unfold St.modAtSlot; rw [e s'.mods, e s.mods]; exact congrArg _ h
  unfold St.tableOrder St.scanOrder
  rw [hm]

theorem tableKey_modify (s s' : St) (r : ModId) (f : Mod → Mod) (hf : ∀ md, (f md).inCtx = md.inCtx ∧ (f md).slot = md.slot)
    (h : s'.mods = s.mods.modify r f) : tableKey s' = tableKey s := by
  unfold tableKey
  rw [h, List.map_modify _ (f' := id) (fun md => Prod.ext (hf md).1 (hf md).2), List.modify_id]

theorem tellPubsub_bcast (s : St) (msg : Msg) (h : msg.topic = none) (k : ModId) :
    (tellPubsub s msg none).mods[k]? = (s.mods[k]?).map fun md => if k ∈ s.tableOrder then deliver msg .bcast k md else md := by
  unfold tellPubsub
  simp only [h]
  exact (walk_mods (J := fun _ => True) (fun s r _ => ⟨tellIf_mods s msg .bcast r, trivial⟩) _ s trivial (tableOrder_nodup s)).1 k

/-- what a publication on `t` makes of module `r`; the subscription is the one `fetch_sub` finds in `s0`, the state the walk starts from -/
def pubDeliver (s0 : St) (msg : Msg) (t : String) (r : ModId) (md : Mod) : Mod :=
  if md.state == .running || md.state == .paused then
    match fetchSub s0 md t with
    | some sub => deliver msg (.sub sub) r md
    | none => md
  else md

theorem pubDeliver_eligible {s0 : St} {msg : Msg} {t : String} {r : ModId} {md : Mod} {sub : SrcId} {q : List Msg}
    (he : md.state = .running ∨ md.state = .paused) (hf : fetchSub s0 md t = some sub) (hp : md.pipe = some q)
    (hroom : q.length + md.pipeSkip < pipeCap) :
    pubDeliver s0 msg t r md = { md with pipe := some (q ++ [{ msg with sub := some sub, rcpt := some r }]) } := by
  have : (md.state == MState.running || md.state == MState.paused) = true := by rcases he with h | h <;> simp [h]
  simp only [pubDeliver, this, hf, if_true, deliver_eligible he hp hroom]; rfl

theorem pubDeliver_key (s0 : St) (msg : Msg) (t : String) (r : ModId) (md : Mod) :
    (pubDeliver s0 msg t r md).inCtx = md.inCtx ∧ (pubDeliver s0 msg t r md).slot = md.slot := by
  unfold pubDeliver
  split
  · split
    · exact deliver_key _ _ _ _
    · exact ⟨rfl, rfl⟩
  · exact ⟨rfl, rfl⟩

theorem fetchSub_congr (s s' : St) (md : Mod) (t : String) (h1 : s'.srcs = s.srcs) (h2 : s'.rx = s.rx) : fetchSub s' md t = fetchSub s md t := by
  unfold fetchSub
  simp only [h1, h2]

/-- sources, patterns and table order are what the steps of a publication read and never write -/
def PubFrame (s0 s : St) : Prop := s.srcs = s0.srcs ∧ s.rx = s0.rx ∧ tableKey s = tableKey s0

/-- one step of `tell_subscribers` -/
def pubStep (msg : Msg) (t : String) (s : St) (r : ModId) : St :=
  match s.mods[r]? with
  | some md =>
    if md.state == .running || md.state == .paused then
      match fetchSub s md t with
      | some sub => tellIf s msg (.sub sub) r
      | none => s
    else s
  | none => s

theorem pubStep_mods (s0 : St) (msg : Msg) (t : String) (s : St) (r : ModId) (hJ : PubFrame s0 s) :
    (pubStep msg t s r).mods = s.mods.modify r (pubDeliver s0 msg t r) ∧ PubFrame s0 (pubStep msg t s r) := by
  unfold pubStep
  cases hm : s.mods[r]? with
  | none => exact ⟨(List.modify_eq_self (by simpa using hm)).symm, hJ⟩
  | some md =>
    by_cases he : (md.state == .running || md.state == .paused) = true
    · have hf := fetchSub_congr s0 s md t hJ.1 hJ.2.1
      cases hs : fetchSub s md t with
      | none => simp only [he, hs, if_true]; exact ⟨(List.modify_fix hm (by simp [pubDeliver, he, ← hf, hs])).symm, hJ⟩
      | some sub =>
        simp only [he, hs, if_true]
        have hmods : (tellIf s msg (.sub sub) r).mods = s.mods.modify r (pubDeliver s0 msg t r) := by
          rw [tellIf_mods]
          exact List.modify_congr_at hm (by simp [pubDeliver, he, ← hf, hs])
        exact ⟨hmods, ((tellIf_srcs _ _ _ _).1).trans hJ.1, ((tellIf_srcs _ _ _ _).2).trans hJ.2.1,
          (tableKey_modify s _ r _ (pubDeliver_key s0 msg t r) hmods).trans hJ.2.2⟩
    · simp only [he]; exact ⟨(List.modify_fix hm (by simp [pubDeliver, he])).symm, hJ⟩

theorem tellPubsub_eq_walk (s : St) (msg : Msg) (t : String) (h : msg.topic = some t) :
    tellPubsub s msg none = s.tableOrder.foldl (pubStep msg t) s := by
  unfold tellPubsub
  simp only [h]
  rfl

theorem tellPubsub_publish (s : St) (msg : Msg) (t : String) (h : msg.topic = some t) :
    (∀ k, (tellPubsub s msg none).mods[k]? = (s.mods[k]?).map fun md => if k ∈ s.tableOrder then pubDeliver s msg t k md else md) ∧
    PubFrame s (tellPubsub s msg none) := by
  rw [tellPubsub_eq_walk s msg t h]
  exact walk_mods (pubStep_mods s msg t) _ s ⟨rfl, rfl, rfl⟩ (tableOrder_nodup s)

/-- each publication walks the same table and finds the same subscription, since none writes sources, patterns or what the
table order depends on (`PubFrame`) -/
theorem publishes_append (t : String) (k : ModId) (sub : SrcId) (l : List Msg) : ∀ (s : St) (md : Mod) (q : List Msg),
    (∀ m ∈ l, m.topic = some t) → s.mods[k]? = some md → k ∈ s.tableOrder → (md.state = .running ∨ md.state = .paused) →
    fetchSub s md t = some sub → md.pipe = some q → q.length + l.length + md.pipeSkip ≤ pipeCap →
    (l.foldl (fun s m => tellPubsub s m none) s).mods[k]? =
      some { md with pipe := some (q ++ l.map fun m => { m with sub := some sub, rcpt := some k }) } := by
  induction l with
  | nil => intro s md q _ hm _ _ _ hp _; rw [List.foldl_nil, hm, List.map_nil, List.append_nil, ← hp]
  | cons m l ih =>
    intro s md q ht hm hk he hf hp hroom
    rw [List.length_cons] at hroom
    obtain ⟨h1, hs, hx, hkey⟩ := tellPubsub_publish s m t (ht m List.mem_cons_self)
    have hm1 := h1 k
    rw [hm, Option.map_some, if_pos hk, pubDeliver_eligible he hf hp (by omega)] at hm1
    rw [List.foldl_cons, ih _ _ _ (fun m' h' => ht m' (List.mem_cons_of_mem _ h')) hm1
      (by rw [tableOrder_key s _ hkey]; exact hk) he ((fetchSub_congr s _ _ t hs hx).trans hf) rfl
      (by simp only [List.length_append, List.length_singleton]; omega), List.map_cons, List.append_assoc]
    rfl

end Lm.Core
