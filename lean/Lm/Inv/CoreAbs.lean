import Lm.Core.Logic
/-!
# The part of the core state the life-cycle invariants talk about, and the operations that leave it alone

`Sig`: the fields of a module that the invariants mention.  Most state transformers of the model (mailboxes, sources,
batching, payload holders, output log) touch neither them nor the context object nor the ghost log: they are `Quiet`,
proved once for each, so that the program proofs only see the few updates that matter.
-/
namespace Lm.Core

structure Sig where
  state : MState
  ctxId : Nat
  inCtx : Bool
  name : String
  slot : Nat
  flags : ModFlags
  hooks : Hooks
  deriving DecidableEq, Repr

def Mod.sig (md : Mod) : Sig :=
  { state := md.state, ctxId := md.ctxId, inCtx := md.inCtx, name := md.name, slot := md.slot,
    flags := md.flags, hooks := md.hooks }

def St.sigs (s : St) : List Sig := s.mods.map Mod.sig

theorem sigs_getElem? (s : St) (m : ModId) : s.sigs[m]? = (s.mods[m]?).map Mod.sig := by
  simp [St.sigs]

theorem sig_of_mod (s : St) (m : ModId) (md : Mod) (h : s.mods[m]? = some md) : s.sigs[m]? = some md.sig := by
  rw [sigs_getElem?, h]; rfl

theorem mod_of_sig {s : St} {m : ModId} {g : Sig} (h : s.sigs[m]? = some g) : ∃ md : Mod, s.mods[m]? = some md ∧ md.sig = g :=
  Option.map_eq_some_iff.mp (sigs_getElem? s m ▸ h)

@[simp] theorem emit_mods (s : St) (o) : (s.emit o).mods = s.mods := rfl
@[simp] theorem emit_ctx (s : St) (o) : (s.emit o).ctx = s.ctx := rfl
@[simp] theorem emit_trans (s : St) (o) : (s.emit o).trans = s.trans := rfl
@[simp] theorem emit_sigs (s : St) (o) : (s.emit o).sigs = s.sigs := rfl
@[simp] theorem emit_srcs (s : St) (o) : (s.emit o).srcs = s.srcs := rfl
@[simp] theorem emit_deadCtx (s : St) (o) : (s.emit o).deadCtx = s.deadCtx := rfl
@[simp] theorem emit_nextCtx (s : St) (o) : (s.emit o).nextCtx = s.nextCtx := rfl

theorem updMod_sigs_modify (s : St) (m : ModId) {f : Mod → Mod} {f' : Sig → Sig} (hf : ∀ md, (f md).sig = f' md.sig) :
    (s.updMod m f).sigs = s.sigs.modify m f' := by
  rw [updMod_eq]; exact List.map_modify Mod.sig hf s.mods m

theorem updMod_sigs (s : St) (m : ModId) (f : Mod → Mod) (hf : ∀ md, (f md).sig = md.sig) :
    (s.updMod m f).sigs = s.sigs := by
  rw [updMod_sigs_modify (f' := id) s m hf, List.modify_id]

@[simp] theorem updMod_ctx (s : St) (m) (f) : (s.updMod m f).ctx = s.ctx := by rw [updMod_eq]
@[simp] theorem updMod_trans (s : St) (m) (f) : (s.updMod m f).trans = s.trans := by rw [updMod_eq]
@[simp] theorem updMod_deadCtx (s : St) (m) (f) : (s.updMod m f).deadCtx = s.deadCtx := by rw [updMod_eq]
@[simp] theorem updMod_srcs (s : St) (m) (f) : (s.updMod m f).srcs = s.srcs := by rw [updMod_eq]
@[simp] theorem updMod_nextCtx (s : St) (m) (f) : (s.updMod m f).nextCtx = s.nextCtx := by rw [updMod_eq]
@[simp] theorem updMod_out (s : St) (m) (f) : (s.updMod m f).out = s.out := by rw [updMod_eq]
@[simp] theorem updMod_holders (s : St) (m) (f) : (s.updMod m f).holders = s.holders := by rw [updMod_eq]
@[simp] theorem updMod_holderPayload (s : St) (m) (f) : (s.updMod m f).holderPayload = s.holderPayload := by rw [updMod_eq]
@[simp] theorem updMod_length (s : St) (m) (f) : (s.updMod m f).mods.length = s.mods.length := by
  rw [updMod_eq]; exact List.length_modify f s.mods m

@[simp] theorem updSrc_mods (s : St) (i) (f) : (s.updSrc i f).mods = s.mods := by rw [updSrc_eq]
@[simp] theorem updSrc_ctx (s : St) (i) (f) : (s.updSrc i f).ctx = s.ctx := by rw [updSrc_eq]
@[simp] theorem updSrc_trans (s : St) (i) (f) : (s.updSrc i f).trans = s.trans := by rw [updSrc_eq]
@[simp] theorem updSrc_deadCtx (s : St) (i) (f) : (s.updSrc i f).deadCtx = s.deadCtx := by rw [updSrc_eq]
@[simp] theorem updSrc_nextCtx (s : St) (i) (f) : (s.updSrc i f).nextCtx = s.nextCtx := by rw [updSrc_eq]
@[simp] theorem updSrc_out (s : St) (i) (f) : (s.updSrc i f).out = s.out := by rw [updSrc_eq]
@[simp] theorem updSrc_sigs (s : St) (i) (f) : (s.updSrc i f).sigs = s.sigs := by rw [updSrc_eq]; rfl

structure Quiet (g : St → St) : Prop where
  sigs : ∀ s, (g s).sigs = s.sigs
  ctx : ∀ s, (g s).ctx = s.ctx
  trans : ∀ s, (g s).trans = s.trans
  dead : ∀ s, (g s).deadCtx = s.deadCtx
  next : ∀ s, (g s).nextCtx = s.nextCtx

theorem Quiet.id : Quiet (fun s => s) := ⟨fun _ => rfl, fun _ => rfl, fun _ => rfl, fun _ => rfl, fun _ => rfl⟩

theorem Quiet.comp {g h : St → St} (hg : Quiet g) (hh : Quiet h) : Quiet (fun s => g (h s)) :=
  ⟨fun s => by rw [hg.sigs, hh.sigs], fun s => by rw [hg.ctx, hh.ctx], fun s => by rw [hg.trans, hh.trans],
   fun s => by rw [hg.dead, hh.dead], fun s => by rw [hg.next, hh.next]⟩

theorem Quiet.foldl {α} (g : St → α → St) (hg : ∀ a, Quiet (fun s => g s a)) (l : List α) :
    Quiet (fun s => l.foldl g s) := by
  induction l with
  | nil => exact Quiet.id
  | cons a l ih => exact Quiet.comp ih (hg a)

theorem Quiet.ite (c : Prop) [Decidable c] {g h : St → St} (hg : Quiet g) (hh : Quiet h) :
    Quiet (fun s => if c then g s else h s) := by
  by_cases hc : c
  · simp only [hc, if_true]; exact hg
  · simp only [hc, if_false]; exact hh

/-- a transformer may branch on the state it is applied to: enough that at every state it agrees with some quiet one -/
theorem Quiet.pointwise (g : St → St) (h : ∀ s, ∃ g', Quiet g' ∧ g s = g' s) : Quiet g :=
  ⟨fun s => let ⟨_, hq, he⟩ := h s; he ▸ hq.sigs s, fun s => let ⟨_, hq, he⟩ := h s; he ▸ hq.ctx s,
   fun s => let ⟨_, hq, he⟩ := h s; he ▸ hq.trans s, fun s => let ⟨_, hq, he⟩ := h s; he ▸ hq.dead s,
   fun s => let ⟨_, hq, he⟩ := h s; he ▸ hq.next s⟩

/-- the part of `Quiet` that `Inv` depends on -/
theorem Quiet.view {g : St → St} (hg : Quiet g) (s : St) :
    (g s).sigs = s.sigs ∧ (g s).ctx = s.ctx ∧ (g s).nextCtx = s.nextCtx ∧ (g s).trans = s.trans :=
  ⟨hg.sigs s, hg.ctx s, hg.next s, hg.trans s⟩

theorem quiet_emit (o : Out) : Quiet (fun s => s.emit o) := ⟨fun _ => rfl, fun _ => rfl, fun _ => rfl, fun _ => rfl, fun _ => rfl⟩

theorem quiet_newHolder (p) : Quiet (fun s => newHolder s p) := ⟨fun _ => rfl, fun _ => rfl, fun _ => rfl, fun _ => rfl, fun _ => rfl⟩

theorem quiet_updMod (m : ModId) (f : Mod → Mod) (hf : ∀ md, (f md).sig = md.sig) : Quiet (fun s => s.updMod m f) :=
  ⟨fun s => updMod_sigs s m f hf, fun s => updMod_ctx s m f, fun s => updMod_trans s m f, fun s => updMod_deadCtx s m f,
   fun s => updMod_nextCtx s m f⟩

theorem quiet_updSrc (i : SrcId) (f : Src → Src) : Quiet (fun s => s.updSrc i f) :=
  ⟨fun s => updSrc_sigs s i f, fun s => updSrc_ctx s i f, fun s => updSrc_trans s i f, fun s => updSrc_deadCtx s i f,
   fun s => updSrc_nextCtx s i f⟩

theorem quiet_holders (hs : List Nat) : Quiet (fun s => { s with holders := hs }) :=
  ⟨fun _ => rfl, fun _ => rfl, fun _ => rfl, fun _ => rfl, fun _ => rfl⟩

theorem quiet_srcs (l : List Src) : Quiet (fun s => { s with srcs := l }) :=
  ⟨fun _ => rfl, fun _ => rfl, fun _ => rfl, fun _ => rfl, fun _ => rfl⟩

theorem quiet_holderRef (h) : Quiet (fun s => holderRef s h) :=
  Quiet.pointwise _ fun s => let ⟨hs, e⟩ := holderRef_eq s h; ⟨_, quiet_holders hs, e⟩

theorem quiet_holderUnref (h) : Quiet (fun s => holderUnref s h) :=
  Quiet.pointwise _ fun s => let ⟨hs, o, e⟩ := holderUnref_eq s h
    ⟨fun s => { s with holders := hs, out := o }, ⟨fun _ => rfl, fun _ => rfl, fun _ => rfl, fun _ => rfl, fun _ => rfl⟩, e⟩

theorem quiet_destroyMsg (msg) : Quiet (fun s => destroyMsg s msg) := quiet_holderUnref _

theorem quiet_destroyEvt (e) : Quiet (fun s => destroyEvt s e) := by
  unfold destroyEvt
  cases e.msg with
  | none => exact Quiet.id
  | some m => exact quiet_destroyMsg m

theorem quiet_destroyEvts (evts keep) : Quiet (fun s => destroyEvts s evts keep) :=
  Quiet.foldl _ (fun e => Quiet.ite _ Quiet.id (quiet_destroyEvt e)) evts

theorem quiet_tellIf (msg key r) : Quiet (fun s => tellIf s msg key r) := by
  apply Quiet.pointwise
  intro s
  unfold tellIf
  split
  · exact ⟨_, Quiet.id, rfl⟩
  · split
    · simp only
      split
      · split
        · refine ⟨_, Quiet.comp (quiet_updMod r _ ?_) (quiet_holderRef _), rfl⟩
          exact fun _ => rfl
        · exact ⟨_, Quiet.comp (quiet_destroyMsg _) (quiet_holderRef _), rfl⟩
      · exact ⟨_, Quiet.comp (quiet_destroyMsg _) (quiet_holderRef _), rfl⟩
    · exact ⟨_, Quiet.id, rfl⟩

theorem quiet_tellPubsub (msg recipient) : Quiet (fun s => tellPubsub s msg recipient) := by
  unfold tellPubsub
  cases recipient with
  | some r => exact quiet_tellIf msg .direct r
  | none =>
    -- the list folded over depends on the state, but every step is quiet
    cases msg.topic with
    | none => exact Quiet.pointwise _ fun s => ⟨_, Quiet.foldl _ (fun r => quiet_tellIf msg .bcast r) s.tableOrder, rfl⟩
    | some t =>
      refine Quiet.pointwise _ fun s => ⟨_, Quiet.foldl _ (fun r => Quiet.pointwise _ fun s' => ?_) s.tableOrder, rfl⟩
      split
      · split
        · split
          · exact ⟨_, quiet_tellIf _ _ _, rfl⟩
          · exact ⟨_, Quiet.id, rfl⟩
        · exact ⟨_, Quiet.id, rfl⟩
      · exact ⟨_, Quiet.id, rfl⟩

theorem quiet_tellSystem (recipient sender topic pill) : Quiet (fun s => tellSystem s recipient sender topic pill) := by
  unfold tellSystem
  cases sender with
  | none => exact quiet_tellPubsub _ _
  | some m => exact Quiet.comp (quiet_tellPubsub _ _) (quiet_updMod m _ fun _ => rfl)

theorem quiet_sendMsg (m recipient topic payload af) : Quiet (fun s => sendMsg s m recipient topic payload af) := by
  apply Quiet.pointwise
  intro s
  unfold sendMsg
  have q1 := quiet_updMod m (fun md => { md with sent := md.sent + 1 }) fun _ => rfl
  split
  · exact ⟨_, Quiet.comp (quiet_holderUnref _) (Quiet.comp (quiet_tellPubsub _ _) (Quiet.comp (quiet_newHolder payload) q1)), rfl⟩
  · exact ⟨_, Quiet.comp (quiet_tellPubsub _ _) q1, rfl⟩

theorem quiet_destroySrc (i) : Quiet (fun s => destroySrc s i) := by
  apply Quiet.pointwise
  intro s
  unfold destroySrc
  split
  · exact ⟨_, Quiet.ite _ (Quiet.comp (quiet_emit _) (quiet_updSrc i _)) (quiet_updSrc i _), rfl⟩
  · exact ⟨_, Quiet.id, rfl⟩

theorem quiet_removeSrc (m i) : Quiet (fun s => removeSrc s m i) :=
  Quiet.comp (quiet_destroySrc i) (quiet_updMod m _ fun _ => rfl)

theorem quiet_flushDestroy (m) : Quiet (fun s => flushDestroy s m) := by
  apply Quiet.pointwise
  intro s
  unfold flushDestroy
  split
  · split
    · refine ⟨_, Quiet.comp (quiet_updMod m _ ?_) (Quiet.foldl destroyMsg quiet_destroyMsg _), rfl⟩
      exact fun _ => rfl
    · exact ⟨_, Quiet.id, rfl⟩
  · exact ⟨_, Quiet.id, rfl⟩

theorem quiet_manageSrcsRm (m stop) : Quiet (fun s => manageSrcsRm s m stop) := by
  apply Quiet.pointwise
  intro s
  unfold manageSrcsRm
  have q2 := quiet_updMod m (fun md => { md with pipePolled := false }) fun _ => rfl
  split
  · exact ⟨_, Quiet.id, rfl⟩
  · rename_i md _
    split
    · have q1 : Quiet (fun s => if md.pipe.isSome then (flushDestroy s m).emit (.close .pipeR) else s) :=
        Quiet.ite _ (Quiet.comp (quiet_emit _) (quiet_flushDestroy m)) Quiet.id
      exact ⟨_, Quiet.comp (Quiet.foldl _ (quiet_removeSrc m) (sortSrcs s md.srcs)) (Quiet.comp q2 q1), rfl⟩
    · exact ⟨_, Quiet.comp (Quiet.foldl _ (fun i => quiet_updSrc i _) md.srcs) q2, rfl⟩

theorem quiet_manageSrcsAdd (m) : Quiet (fun s => manageSrcsAdd s m) := by
  apply Quiet.pointwise
  intro s
  unfold manageSrcsAdd
  split
  · exact ⟨_, Quiet.id, rfl⟩
  · rename_i md _
    have q1 := quiet_updMod m (fun md => { md with pipePolled := md.pipe.isSome }) fun _ => rfl
    exact ⟨_, Quiet.comp (Quiet.foldl _ (fun i => quiet_updSrc i _) md.srcs) q1, rfl⟩

theorem quiet_resetModule (m) : Quiet (fun s => resetModule s m) := by
  apply Quiet.pointwise
  intro s
  unfold resetModule
  split
  · exact ⟨_, Quiet.id, rfl⟩
  · rename_i md _
    have q1 : Quiet (fun s => if md.pipe.isSome then s.emit (.close .pipeW) else s) :=
      Quiet.ite _ (quiet_emit _) Quiet.id
    have q2 := Quiet.foldl _ (quiet_removeSrc m) md.subs
    have q3 := quiet_destroyEvts md.stash []
    have q4 := quiet_destroyEvts md.batch []
    have q5 := quiet_updMod m Mod.reset fun _ => rfl
    exact ⟨_, Quiet.comp q5 (Quiet.comp q4 (Quiet.comp q3 (Quiet.comp q2 q1))), rfl⟩

theorem quiet_pushEvtStore (m : ModId) (e : Evt) : Quiet (fun s => pushEvtStore s m e) := by
  apply Quiet.pointwise
  intro s
  unfold pushEvtStore
  split
  · split
    · refine ⟨_, quiet_updMod m _ fun md => ?_, rfl⟩
      cases md.tb with
      | none => rfl
      | some tb => simp only; split <;> rfl
    · exact ⟨_, Quiet.id, rfl⟩
  · refine ⟨_, quiet_updMod m _ ?_, rfl⟩
    exact fun _ => rfl

theorem quiet_consumeOneshot (m : ModId) (md : Mod) (msg : Msg) : Quiet (fun s => consumeOneshot s m md msg) := by
  apply Quiet.pointwise
  intro s
  unfold consumeOneshot
  split
  · split
    · split
      · exact ⟨_, quiet_removeSrc m _, rfl⟩
      · exact ⟨_, Quiet.id, rfl⟩
    · exact ⟨_, Quiet.id, rfl⟩
  · exact ⟨_, Quiet.id, rfl⟩

theorem quiet_flushStep (m : ModId) (x : Msg) : Quiet (fun s => flushStep m s x) := by
  apply Quiet.pointwise
  intro s
  unfold flushStep
  split
  · split
    · exact ⟨_, quiet_destroyMsg x, rfl⟩
    · exact ⟨_, quiet_consumeOneshot m _ x, rfl⟩
  · exact ⟨_, Quiet.id, rfl⟩

theorem quiet_rmInternal (m ns role) : Quiet (fun s => rmInternal s m ns role) := by
  apply Quiet.pointwise
  intro s
  unfold rmInternal
  split
  · split
    · exact ⟨_, quiet_removeSrc m _, rfl⟩
    · exact ⟨_, Quiet.id, rfl⟩
  · exact ⟨_, Quiet.id, rfl⟩

theorem quiet_addSrc (m : ModId) (x : Src) : Quiet (fun s => (addSrc s m x).1) := by
  apply Quiet.pointwise
  intro s
  unfold addSrc
  split
  · exact ⟨_, Quiet.ite _ (quiet_emit _) Quiet.id, rfl⟩
  · split
    · exact ⟨_, Quiet.id, rfl⟩
    · split
      · exact ⟨_, Quiet.ite _ (quiet_emit _) Quiet.id, rfl⟩
      · refine ⟨_, Quiet.comp (quiet_updMod m _ ?_) (quiet_srcs _), rfl⟩
        exact fun _ => rfl

theorem quiet_addSub (m : ModId) (x : Src) : Quiet (fun s => addSub s m x) := by
  apply Quiet.pointwise
  intro s
  unfold addSub
  refine ⟨_, Quiet.comp (quiet_updMod m _ ?_) (quiet_srcs _), rfl⟩
  exact fun _ => rfl

@[simp] theorem holderRef_sigs (s : St) (h) : (holderRef s h).sigs = s.sigs := (quiet_holderRef h).sigs s
@[simp] theorem holderRef_ctx (s : St) (h) : (holderRef s h).ctx = s.ctx := (quiet_holderRef h).ctx s
@[simp] theorem holderRef_trans (s : St) (h) : (holderRef s h).trans = s.trans := (quiet_holderRef h).trans s
@[simp] theorem holderRef_deadCtx (s : St) (h) : (holderRef s h).deadCtx = s.deadCtx := (quiet_holderRef h).dead s
@[simp] theorem holderRef_nextCtx (s : St) (h) : (holderRef s h).nextCtx = s.nextCtx := (quiet_holderRef h).next s
@[simp] theorem holderUnref_sigs (s : St) (h) : (holderUnref s h).sigs = s.sigs := (quiet_holderUnref h).sigs s
@[simp] theorem holderUnref_ctx (s : St) (h) : (holderUnref s h).ctx = s.ctx := (quiet_holderUnref h).ctx s
@[simp] theorem holderUnref_trans (s : St) (h) : (holderUnref s h).trans = s.trans := (quiet_holderUnref h).trans s
@[simp] theorem holderUnref_deadCtx (s : St) (h) : (holderUnref s h).deadCtx = s.deadCtx := (quiet_holderUnref h).dead s
@[simp] theorem holderUnref_nextCtx (s : St) (h) : (holderUnref s h).nextCtx = s.nextCtx := (quiet_holderUnref h).next s
@[simp] theorem destroyMsg_sigs (s : St) (msg) : (destroyMsg s msg).sigs = s.sigs := (quiet_destroyMsg msg).sigs s
@[simp] theorem destroyMsg_ctx (s : St) (msg) : (destroyMsg s msg).ctx = s.ctx := (quiet_destroyMsg msg).ctx s
@[simp] theorem destroyMsg_trans (s : St) (msg) : (destroyMsg s msg).trans = s.trans := (quiet_destroyMsg msg).trans s
@[simp] theorem destroyMsg_deadCtx (s : St) (msg) : (destroyMsg s msg).deadCtx = s.deadCtx := (quiet_destroyMsg msg).dead s
@[simp] theorem destroyMsg_nextCtx (s : St) (msg) : (destroyMsg s msg).nextCtx = s.nextCtx := (quiet_destroyMsg msg).next s
@[simp] theorem tellIf_sigs (s : St) (msg) (key) (r) : (tellIf s msg key r).sigs = s.sigs := (quiet_tellIf msg key r).sigs s
@[simp] theorem tellIf_ctx (s : St) (msg) (key) (r) : (tellIf s msg key r).ctx = s.ctx := (quiet_tellIf msg key r).ctx s
@[simp] theorem tellIf_trans (s : St) (msg) (key) (r) : (tellIf s msg key r).trans = s.trans := (quiet_tellIf msg key r).trans s
@[simp] theorem tellIf_deadCtx (s : St) (msg) (key) (r) : (tellIf s msg key r).deadCtx = s.deadCtx := (quiet_tellIf msg key r).dead s
@[simp] theorem tellIf_nextCtx (s : St) (msg) (key) (r) : (tellIf s msg key r).nextCtx = s.nextCtx := (quiet_tellIf msg key r).next s
@[simp] theorem tellPubsub_sigs (s : St) (msg) (r) : (tellPubsub s msg r).sigs = s.sigs := (quiet_tellPubsub msg r).sigs s
@[simp] theorem tellPubsub_ctx (s : St) (msg) (r) : (tellPubsub s msg r).ctx = s.ctx := (quiet_tellPubsub msg r).ctx s
@[simp] theorem tellPubsub_trans (s : St) (msg) (r) : (tellPubsub s msg r).trans = s.trans := (quiet_tellPubsub msg r).trans s
@[simp] theorem tellPubsub_deadCtx (s : St) (msg) (r) : (tellPubsub s msg r).deadCtx = s.deadCtx := (quiet_tellPubsub msg r).dead s
@[simp] theorem tellPubsub_nextCtx (s : St) (msg) (r) : (tellPubsub s msg r).nextCtx = s.nextCtx := (quiet_tellPubsub msg r).next s
@[simp] theorem tellSystem_sigs (s : St) (r) (sd) (t) (p) : (tellSystem s r sd t p).sigs = s.sigs := (quiet_tellSystem r sd t p).sigs s
@[simp] theorem tellSystem_ctx (s : St) (r) (sd) (t) (p) : (tellSystem s r sd t p).ctx = s.ctx := (quiet_tellSystem r sd t p).ctx s
@[simp] theorem tellSystem_trans (s : St) (r) (sd) (t) (p) : (tellSystem s r sd t p).trans = s.trans := (quiet_tellSystem r sd t p).trans s
@[simp] theorem tellSystem_deadCtx (s : St) (r) (sd) (t) (p) : (tellSystem s r sd t p).deadCtx = s.deadCtx := (quiet_tellSystem r sd t p).dead s
@[simp] theorem tellSystem_nextCtx (s : St) (r) (sd) (t) (p) : (tellSystem s r sd t p).nextCtx = s.nextCtx := (quiet_tellSystem r sd t p).next s
@[simp] theorem newHolder_sigs (s : St) (p) : (newHolder s p).sigs = s.sigs := (quiet_newHolder p).sigs s
@[simp] theorem newHolder_ctx (s : St) (p) : (newHolder s p).ctx = s.ctx := (quiet_newHolder p).ctx s
@[simp] theorem newHolder_trans (s : St) (p) : (newHolder s p).trans = s.trans := (quiet_newHolder p).trans s
@[simp] theorem newHolder_deadCtx (s : St) (p) : (newHolder s p).deadCtx = s.deadCtx := (quiet_newHolder p).dead s
@[simp] theorem newHolder_nextCtx (s : St) (p) : (newHolder s p).nextCtx = s.nextCtx := (quiet_newHolder p).next s
@[simp] theorem sendMsg_sigs (s : St) (m) (r) (t) (p) (af) : (sendMsg s m r t p af).sigs = s.sigs := (quiet_sendMsg m r t p af).sigs s
@[simp] theorem sendMsg_ctx (s : St) (m) (r) (t) (p) (af) : (sendMsg s m r t p af).ctx = s.ctx := (quiet_sendMsg m r t p af).ctx s
@[simp] theorem sendMsg_trans (s : St) (m) (r) (t) (p) (af) : (sendMsg s m r t p af).trans = s.trans := (quiet_sendMsg m r t p af).trans s
@[simp] theorem sendMsg_deadCtx (s : St) (m) (r) (t) (p) (af) : (sendMsg s m r t p af).deadCtx = s.deadCtx := (quiet_sendMsg m r t p af).dead s
@[simp] theorem sendMsg_nextCtx (s : St) (m) (r) (t) (p) (af) : (sendMsg s m r t p af).nextCtx = s.nextCtx := (quiet_sendMsg m r t p af).next s
@[simp] theorem destroySrc_sigs (s : St) (i) : (destroySrc s i).sigs = s.sigs := (quiet_destroySrc i).sigs s
@[simp] theorem destroySrc_ctx (s : St) (i) : (destroySrc s i).ctx = s.ctx := (quiet_destroySrc i).ctx s
@[simp] theorem destroySrc_trans (s : St) (i) : (destroySrc s i).trans = s.trans := (quiet_destroySrc i).trans s
@[simp] theorem destroySrc_deadCtx (s : St) (i) : (destroySrc s i).deadCtx = s.deadCtx := (quiet_destroySrc i).dead s
@[simp] theorem destroySrc_nextCtx (s : St) (i) : (destroySrc s i).nextCtx = s.nextCtx := (quiet_destroySrc i).next s
@[simp] theorem removeSrc_sigs (s : St) (m) (i) : (removeSrc s m i).sigs = s.sigs := (quiet_removeSrc m i).sigs s
@[simp] theorem removeSrc_ctx (s : St) (m) (i) : (removeSrc s m i).ctx = s.ctx := (quiet_removeSrc m i).ctx s
@[simp] theorem removeSrc_trans (s : St) (m) (i) : (removeSrc s m i).trans = s.trans := (quiet_removeSrc m i).trans s
@[simp] theorem removeSrc_deadCtx (s : St) (m) (i) : (removeSrc s m i).deadCtx = s.deadCtx := (quiet_removeSrc m i).dead s
@[simp] theorem removeSrc_nextCtx (s : St) (m) (i) : (removeSrc s m i).nextCtx = s.nextCtx := (quiet_removeSrc m i).next s
@[simp] theorem flushDestroy_sigs (s : St) (m) : (flushDestroy s m).sigs = s.sigs := (quiet_flushDestroy m).sigs s
@[simp] theorem flushDestroy_ctx (s : St) (m) : (flushDestroy s m).ctx = s.ctx := (quiet_flushDestroy m).ctx s
@[simp] theorem flushDestroy_trans (s : St) (m) : (flushDestroy s m).trans = s.trans := (quiet_flushDestroy m).trans s
@[simp] theorem flushDestroy_deadCtx (s : St) (m) : (flushDestroy s m).deadCtx = s.deadCtx := (quiet_flushDestroy m).dead s
@[simp] theorem flushDestroy_nextCtx (s : St) (m) : (flushDestroy s m).nextCtx = s.nextCtx := (quiet_flushDestroy m).next s
@[simp] theorem manageSrcsRm_sigs (s : St) (m) (b) : (manageSrcsRm s m b).sigs = s.sigs := (quiet_manageSrcsRm m b).sigs s
@[simp] theorem manageSrcsRm_ctx (s : St) (m) (b) : (manageSrcsRm s m b).ctx = s.ctx := (quiet_manageSrcsRm m b).ctx s
@[simp] theorem manageSrcsRm_trans (s : St) (m) (b) : (manageSrcsRm s m b).trans = s.trans := (quiet_manageSrcsRm m b).trans s
@[simp] theorem manageSrcsRm_deadCtx (s : St) (m) (b) : (manageSrcsRm s m b).deadCtx = s.deadCtx := (quiet_manageSrcsRm m b).dead s
@[simp] theorem manageSrcsRm_nextCtx (s : St) (m) (b) : (manageSrcsRm s m b).nextCtx = s.nextCtx := (quiet_manageSrcsRm m b).next s
@[simp] theorem manageSrcsAdd_sigs (s : St) (m) : (manageSrcsAdd s m).sigs = s.sigs := (quiet_manageSrcsAdd m).sigs s
@[simp] theorem manageSrcsAdd_ctx (s : St) (m) : (manageSrcsAdd s m).ctx = s.ctx := (quiet_manageSrcsAdd m).ctx s
@[simp] theorem manageSrcsAdd_trans (s : St) (m) : (manageSrcsAdd s m).trans = s.trans := (quiet_manageSrcsAdd m).trans s
@[simp] theorem manageSrcsAdd_deadCtx (s : St) (m) : (manageSrcsAdd s m).deadCtx = s.deadCtx := (quiet_manageSrcsAdd m).dead s
@[simp] theorem manageSrcsAdd_nextCtx (s : St) (m) : (manageSrcsAdd s m).nextCtx = s.nextCtx := (quiet_manageSrcsAdd m).next s
@[simp] theorem resetModule_sigs (s : St) (m) : (resetModule s m).sigs = s.sigs := (quiet_resetModule m).sigs s
@[simp] theorem resetModule_ctx (s : St) (m) : (resetModule s m).ctx = s.ctx := (quiet_resetModule m).ctx s
@[simp] theorem resetModule_trans (s : St) (m) : (resetModule s m).trans = s.trans := (quiet_resetModule m).trans s
@[simp] theorem resetModule_deadCtx (s : St) (m) : (resetModule s m).deadCtx = s.deadCtx := (quiet_resetModule m).dead s
@[simp] theorem resetModule_nextCtx (s : St) (m) : (resetModule s m).nextCtx = s.nextCtx := (quiet_resetModule m).next s
@[simp] theorem destroyEvts_sigs (s : St) (e) (k) : (destroyEvts s e k).sigs = s.sigs := (quiet_destroyEvts e k).sigs s
@[simp] theorem destroyEvts_ctx (s : St) (e) (k) : (destroyEvts s e k).ctx = s.ctx := (quiet_destroyEvts e k).ctx s
@[simp] theorem destroyEvts_trans (s : St) (e) (k) : (destroyEvts s e k).trans = s.trans := (quiet_destroyEvts e k).trans s
@[simp] theorem destroyEvts_deadCtx (s : St) (e) (k) : (destroyEvts s e k).deadCtx = s.deadCtx := (quiet_destroyEvts e k).dead s
@[simp] theorem destroyEvts_nextCtx (s : St) (e) (k) : (destroyEvts s e k).nextCtx = s.nextCtx := (quiet_destroyEvts e k).next s

end Lm.Core
