import Lm.Inv.C12List
/-!
# Iterators visit every element exactly once, in container order

The element an iterator is on after `itr_new` / `itr_next` is logged as `Ev.cur (some node)`.
`visited log` is the sequence of the *identities* of these nodes, so "exactly once" is about nodes,
not about (possibly repeated) values.
-/
namespace Lm.Struct
open Lm.Spec.C12

def visited (log : List Ev) : List NodeId :=
  log.filterMap fun e => match e with | .cur (some nd) => some nd.id | _ => none

theorem visited_append (l1 l2 : List Ev) : visited (l1 ++ l2) = visited l1 ++ visited l2 := by
  simp [visited, List.filterMap_append]

theorem visited_callDtor (d : Bool) (log : List Ev) (v : Val) : visited (callDtor d log v) = visited log := by
  cases d <;> simp [callDtor, visited]

/-- Progress of an iteration over the identities `I` the chain had when the iterator was created: `n`
nodes of `I` have been visited; of these, `pre` are still in the chain `cur` (the others were removed
through the iterator); the rest of the chain is the not yet visited part of `I`, untouched. -/
structure Prog (I cur : List NodeId) (n : Nat) (pre : List NodeId) : Prop where
  le : n ≤ I.length
  sub : pre.Sublist (I.take n)
  eq : cur = pre ++ I.drop n

theorem Prog.advance {I cur : List NodeId} {n : Nat} {pre : List NodeId} {x : NodeId} (h : Prog I cur n pre)
    (hx : cur[pre.length]? = some x) : Prog I cur (n + 1) (pre ++ [x]) ∧ I.take (n + 1) = I.take n ++ [x] := by
  have h1 : I[n]? = some x := by
    rwa [h.eq, List.getElem?_append_right (Nat.le_refl _), Nat.sub_self, List.getElem?_drop, Nat.add_zero] at hx
  obtain ⟨hn, hx'⟩ := List.getElem?_eq_some_iff.mp h1
  have ht : I.take (n + 1) = I.take n ++ [x] := by rw [List.take_add_one, h1]; rfl
  refine ⟨⟨hn, ?_, ?_⟩, ht⟩
  · rw [ht]; exact List.Sublist.append h.sub (List.Sublist.refl _)
  · rw [h.eq, List.drop_eq_getElem_cons hn, hx', List.append_assoc]; rfl

theorem Prog.done {I cur : List NodeId} {n : Nat} {pre : List NodeId} (h : Prog I cur n pre)
    (hx : cur.length ≤ pre.length) : n = I.length := by
  have := congrArg List.length h.eq
  simp at this
  have := h.le
  omega

theorem Prog.remove {I cur : List NodeId} {n : Nat} {pre : List NodeId} {p : Nat} (h : Prog I cur n pre)
    (hp : p + 1 = pre.length) : Prog I (cur.eraseIdx p) n pre.dropLast := by
  refine ⟨h.le, (List.dropLast_sublist pre).trans h.sub, ?_⟩
  rw [h.eq, List.eraseIdx_append_of_lt_length (by omega), List.eraseIdx_eq_dropLast hp]

theorem Prog.zero (I : List NodeId) : Prog I I 0 [] := ⟨Nat.zero_le _, List.nil_sublist _, rfl⟩

/-- An iteration over the chain identities `I` is in progress (or has ended); `V0` is what had been
visited before it started.  The iterator's link points at the last node of `pre` (the current
element) or, when that element has just been removed through it and left `pre`, at what follows `pre`. -/
def VisInv (k : Kind) (I V0 : List NodeId) (s : St) : Prop :=
  (∃ a, R k s a) ∧ ∃ q n pre, s.obj = some q ∧ Prog I (ids q.chain) n pre ∧ visited s.log = V0 ++ I.take n ∧
    match s.itr with
    | none => n = I.length
    | some it => ∃ p, linkPos q.chain it.elem = some p ∧ (if it.removed then p = pre.length else p + 1 = pre.length)

theorem VisInv.live {k : Kind} {I V0 : List NodeId} {q : Cont} {it : Itr} {log : List Ev} {p n : Nat} {pre : List NodeId}
    (hR : ∃ a, R k ⟨some q, some it, log, false⟩ a) (hp : linkPos q.chain it.elem = some p)
    (hprog : Prog I (ids q.chain) n pre) (hvis : visited log = V0 ++ I.take n)
    (hpp : if it.removed then p = pre.length else p + 1 = pre.length) : VisInv k I V0 ⟨some q, some it, log, false⟩ :=
  ⟨hR, q, n, pre, rfl, hprog, hvis, p, hp, hpp⟩

theorem vis_settleAt {k : Kind} {I V0 : List NodeId} {q : Cont} {log : List Ev} {it : Itr} {n : Nat} {pre : List NodeId}
    (hR : ∃ a, R k (settleAt q log it pre.length) a) (hprog : Prog I (ids q.chain) n pre)
    (hvis : visited log = V0 ++ I.take n) (hl : linkPos q.chain it.elem = some pre.length) (hr : it.removed = false) :
    VisInv k I V0 (settleAt q log it pre.length) := by
  refine ⟨hR, ?_⟩
  unfold settleAt
  cases hnx : q.chain[pre.length]? with
  | none => exact ⟨q, n, pre, rfl, hprog, hvis, hprog.done (by rw [ids_length]; simpa using hnx)⟩
  | some nd =>
    have hx : (ids q.chain)[pre.length]? = some nd.id := by rw [ids_getElem?, hnx]; rfl
    obtain ⟨hprog', htake⟩ := hprog.advance hx
    refine ⟨q, n + 1, pre ++ [nd.id], rfl, hprog', ?_, pre.length, hl, by simp [hr]⟩
    rw [visited_append, hvis, htake]; simp [visited]

theorem vis_itrNew {k : Kind} {s : St} {a : ASt} {q : Cont} (h : R k s a) (ho : s.obj = some q) :
    VisInv k (ids q.chain) (visited s.log) (noteCur (itrNew s)).1 := by
  have hR := (itrNew_R h).1
  revert ho hR
  refine h.objCases (fun _ _ _ ho => nomatch ho) fun q' itr log cur wf tl _ ho hR => ?_
  cases ho
  rw [noteCur_itrNew wf.len] at hR ⊢
  exact vis_settleAt (pre := []) ⟨_, hR⟩ (Prog.zero _) (by simp) rfl rfl

@[elab_as_elim]
theorem VisInv.cases {k : Kind} {I V0 : List NodeId} {motive : St → Prop} {s : St} (h : VisInv k I V0 s)
    (idle : ∀ q log, VisInv k I V0 ⟨some q, none, log, false⟩ → motive ⟨some q, none, log, false⟩)
    (live : ∀ q it log p n pre, (∃ a, R k ⟨some q, some it, log, false⟩ a) → q.WF →
      linkPos q.chain it.elem = some p → OnElem k q.chain it p → Prog I (ids q.chain) n pre →
      visited log = V0 ++ I.take n → (if it.removed then p = pre.length else p + 1 = pre.length) →
      motive ⟨some q, some it, log, false⟩) : motive s := by
  obtain ⟨⟨a, hR⟩, q, n, pre, ho, hprog, hvis, hitr⟩ := h
  revert ho hvis hitr
  refine hR.cases (fun _ _ _ ho => nomatch ho) ?_ ?_
  · intro q' log wf tl ho hvis hn; cases ho
    exact idle _ _ ⟨⟨_, R.idle wf tl⟩, _, n, pre, rfl, hprog, hvis, hn⟩
  · intro q' it log p _ _ wf tl hp hr hd hs ho hvis ⟨p', hp', hpp⟩
    cases ho; cases hp.symm.trans hp'
    exact live _ _ _ _ _ _ ⟨_, R.live wf tl hp hr hd hs⟩ wf hp hs hprog hvis hpp

theorem vis_itrNext {k : Kind} (hk : k ≠ .list) {I V0 : List NodeId} {s : St} (h : VisInv k I V0 s) :
    VisInv k I V0 (noteCur (itrNext s)).1 := by
  refine h.cases (fun _ _ h => h) ?_
  intro q it log p n pre ⟨a, hR⟩ wf hp hs hprog hvis hpp
  have hR' := (itrNext_R hk hR).1
  obtain ⟨l, hl, e⟩ := noteCur_itrNext wf.nodup hp (hs.nl hk).2 log
  have : (if it.removed then p else p + 1) = pre.length := by revert hpp; cases it.removed <;> exact id
  rw [e] at hR' ⊢
  rw [this] at hR' hl ⊢
  exact vis_settleAt (it := { it with elem := l, removed := false }) ⟨_, hR'⟩ hprog hvis hl rfl

theorem vis_itrRemove {k : Kind} (hk : k ≠ .list) {I V0 : List NodeId} {s : St} (h : VisInv k I V0 s) :
    VisInv k I V0 (itrRemove s).1 := by
  refine h.cases (fun _ _ h => h) ?_
  intro q it log p n pre ⟨a, hR⟩ wf hp hs hprog hvis hpp
  have hR' := (itrRemove_R hk hR).1
  cases hr : it.removed with
  | true =>
    rw [itrRemove_removed hr] at hR' ⊢
    exact .live ⟨_, hR'⟩ hp hprog hvis hpp
  | false =>
    have hlt := (hs.nl hk).2 hr
    rw [itrRemove_live hp hr (List.getElem?_eq_getElem hlt)] at hR' ⊢
    simp only [hr, Bool.false_eq_true, if_false] at hpp
    refine .live ⟨_, hR'⟩ (linkPos_eraseAt hp) (pre := pre.dropLast) (ids_eraseAt .. ▸ hprog.remove hpp)
      ((visited_callDtor ..).trans hvis) ?_
    rw [if_pos rfl, List.length_dropLast, ← hpp]; rfl

theorem vis_itrSet {k : Kind} (hk : k ≠ .list) {I V0 : List NodeId} {s : St} (v : Val) (h : VisInv k I V0 s) :
    VisInv k I V0 (itrSet s v).1 := by
  refine h.cases (fun _ _ h => h) ?_
  intro q it log p n pre ⟨a, hR⟩ wf hp hs hprog hvis hpp
  have hR' := (itrSet_R hk v hR).1
  rw [itrSet_live hp (hs.nl hk).2] at hR' ⊢
  by_cases hg : it.removed = true ∨ v = 0 <;> simp only [hg, if_true, if_false] at hR' ⊢
  · exact .live ⟨_, hR'⟩ hp hprog hvis hpp
  · exact .live ⟨_, hR'⟩ ((linkPos_setAt ..).trans hp) ((ids_setAt ..).symm ▸ hprog) hvis hpp

theorem vis_same {k : Kind} {I V0 : List NodeId} {s s' : St} {a' : ASt} (h : VisInv k I V0 s) (hR : R k s' a')
    (ho : s'.obj = s.obj) (hi : s'.itr = s.itr) (hl : visited s'.log = visited s.log) : VisInv k I V0 s' := by
  obtain ⟨_, q, n, pre, ho', hprog, hvis, hitr⟩ := h
  exact ⟨⟨a', hR⟩, q, n, pre, by rw [ho, ho'], hprog, by rw [hl, hvis], by rw [hi]; exact hitr⟩

theorem itrGet_state {k : Kind} (hk : k ≠ .list) {s : St} {a : ASt} (h : R k s a) : (itrGet s).1 = s :=
  h.cases (fun _ _ _ => rfl) (fun _ _ _ _ => rfl) fun _ _ _ _ _ _ _ _ hp _ _ hs => by rw [itrGet_live hp (hs.nl hk).2]

theorem peek_state {k : Kind} {s : St} {a : ASt} (h : R k s a) : (peek s).1 = s :=
  h.objCases (fun _ _ _ => rfl) fun _ _ _ _ wf _ _ => by rw [peek_obj wf.len]

theorem iterate_state (s : St) (stop : Option Nat) :
    (iterate s stop).1.obj = s.obj ∧ (iterate s stop).1.itr = s.itr ∧ visited (iterate s stop).1.log = visited s.log := by
  unfold iterate; split <;> (try split) <;> simp [visited]

theorem vis_iterate {k : Kind} {I V0 : List NodeId} {s : St} (stop : Option Nat) (h : VisInv k I V0 s) :
    VisInv k I V0 (iterate s stop).1 :=
  have ⟨_, hR⟩ := h.1
  have := iterate_state s stop
  vis_same h (iterate_R stop hR).1 this.1 this.2.1 this.2.2

/-- the invariant in the form `C12_queue_iterator_visits_each_once` and the stack's theorem state -/
theorem VisInv.result {k : Kind} {I V0 : List NodeId} {s : St} (h : VisInv k I V0 s) :
    ∃ n q, visited s.log = V0 ++ I.take n ∧ (s.itr = none → n = I.length) ∧ s.obj = some q ∧
      (ids q.chain).Sublist I ∧ ∃ pre, pre.Sublist (I.take n) ∧ ids q.chain = pre ++ I.drop n := by
  obtain ⟨_, q, n, pre, ho, hprog, hvis, hitr⟩ := h
  refine ⟨n, q, hvis, ?_, ho, ?_, pre, hprog.sub, hprog.eq⟩
  · intro hi; rw [hi] at hitr; exact hitr
  · rw [hprog.eq]
    have := List.Sublist.append hprog.sub (List.Sublist.refl (I.drop n))
    rwa [List.take_append_drop] at this

theorem foldl_inv {σ α : Type} {f : σ → α → σ} {P : σ → Prop} {ok : α → Bool}
    (hstep : ∀ s o, P s → ok o = true → P (f s o)) : ∀ (ops : List α) {s : σ}, P s → ops.all ok = true → P (ops.foldl f s)
  | [], _, h, _ => h
  | o :: os, s, h, ha => by
    simp only [List.all_cons, Bool.and_eq_true] at ha
    exact foldl_inv hstep os (hstep s o h ha.1) ha.2

namespace Queue

/-- the calls of an iteration: those on the iterator and those that leave the container as it is (so not `enq`,
although it is permitted while an iterator is live); `itNew` would restart it, `free` abandon it -/
def Op.inIteration : Op → Bool
  | .itNext | .itGet | .itSet _ | .itRm | .peek | .len | .iterate _ => true
  | _ => false

theorem vis_step {I V0 : List NodeId} (s : St) (o : Op) (h : VisInv .queue I V0 s) (ho : o.inIteration = true) :
    VisInv .queue I V0 (step s o).1 := by
  obtain ⟨a, hR⟩ := h.1
  cases o with
  | itNext => exact vis_itrNext (by decide) h
  | itGet => exact (itrGet_state (by decide) hR).symm ▸ h
  | itSet v => exact vis_itrSet (by decide) v h
  | itRm => exact vis_itrRemove (by decide) h
  | peek => exact (peek_state hR).symm ▸ h
  | len => exact h
  | iterate k => exact vis_iterate k h
  | _ => nomatch ho

end Queue

namespace Stack

def Op.inIteration : Op → Bool
  | .itNext | .itGet | .itSet _ | .itRm | .peek | .len | .iterate _ => true
  | _ => false

theorem vis_step {I V0 : List NodeId} (s : St) (o : Op) (h : VisInv .stack I V0 s) (ho : o.inIteration = true) :
    VisInv .stack I V0 (step s o).1 := by
  obtain ⟨a, hR⟩ := h.1
  cases o with
  | itNext => exact vis_itrNext (by decide) h
  | itGet => exact (itrGet_state (by decide) hR).symm ▸ h
  | itSet v => exact vis_itrSet (by decide) v h
  | itRm => exact vis_itrRemove (by decide) h
  | peek => exact (peek_state hR).symm ▸ h
  | len => exact h
  | iterate k => exact vis_iterate k h
  | _ => nomatch ho

end Stack

end Lm.Struct
