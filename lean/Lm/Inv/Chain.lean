import Lm.Struct.Chain
/-! Chains with node identities: where a link points after the chain changed, the well-formedness of
a container, the queue's tail. -/
namespace Lm.Struct

theorem lt_of_getElem?_some {α} {l : List α} {p : Nat} {x : α} (h : l[p]? = some x) : p < l.length :=
  (List.getElem?_eq_some_iff.mp h).1

theorem insertIdx_eq_take_drop {α} (x : α) : ∀ (l : List α) (i : Nat), i ≤ l.length →
    l.insertIdx i x = l.take i ++ x :: l.drop i
  | _, 0, _ => by simp
  | [], i + 1, h => by simp at h
  | y :: l, i + 1, h => by
    simp [List.insertIdx_succ_cons, insertIdx_eq_take_drop x l i (Nat.le_of_succ_le_succ h)]

theorem perm_take_cons_drop {α} (l : List α) (p : Nat) (a : α) : (l.take p ++ a :: l.drop p).Perm (a :: l) := by
  have := @List.perm_middle _ a (l.take p) (l.drop p)
  rwa [List.take_append_drop] at this

theorem cLen_some (q : Cont) : cLen (some q) = (q.len : Int) := rfl

theorem vals_eq_nil {c : Chain} : vals c = [] ↔ c = [] := by simp [vals]

theorem vals_length (c : Chain) : (vals c).length = c.length := by simp [vals]

theorem vals_getElem? (c : Chain) (p : Nat) : (vals c)[p]? = (c[p]?).map (·.val) := by simp [vals]

theorem ids_getElem? (c : Chain) (p : Nat) : (ids c)[p]? = (c[p]?).map (·.id) := by simp [ids]

theorem ids_length (c : Chain) : (ids c).length = c.length := by simp [ids]

theorem posOf_eq (n : NodeId) : ∀ c : Chain, posOf n c = (ids c).idxOf? n
  | [] => rfl
  | x :: xs => by simp [posOf, ids, List.idxOf?_cons, posOf_eq n xs]

theorem posOf_none_iff {n : NodeId} : ∀ {c : Chain}, posOf n c = none ↔ n ∉ ids c :=
  fun {c} => posOf_eq n c ▸ List.idxOf?_eq_none_iff

theorem posOf_getElem {n : NodeId} {c : Chain} {i : Nat} (h : posOf n c = some i) : ∃ nd, c[i]? = some nd ∧ nd.id = n := by
  obtain ⟨hi, e, _⟩ := List.idxOf?_eq_some_iff.mp (posOf_eq n c ▸ h)
  have := List.getElem?_eq_getElem hi
  rw [ids_getElem?, e, Option.map_eq_some_iff] at this
  exact this

theorem posOf_lt {n : NodeId} {c : Chain} {i : Nat} (h : posOf n c = some i) : i < c.length :=
  have ⟨_, h, _⟩ := posOf_getElem h
  lt_of_getElem?_some h

theorem posOf_of_getElem {c : Chain} {i : Nat} {nd : Node} (hn : (ids c).Nodup) (h : c[i]? = some nd) :
    posOf nd.id c = some i := by
  have h' : (ids c)[i]? = some nd.id := (ids_getElem? c i).trans (congrArg _ h)
  obtain ⟨hi, e⟩ := List.getElem?_eq_some_iff.mp h'
  rw [posOf_eq, ← e]
  exact List.findIdx?_eq_some_iff_findIdx_eq.mpr ⟨hi, hn.idxOf_getElem i hi⟩

theorem posOf_take_append {n : NodeId} {c : Chain} {i p : Nat} (r : Chain) (h : posOf n c = some i) (hp : i < p) :
    posOf n (c.take p ++ r) = some i := by
  rw [posOf_eq, ids, List.idxOf?] at h
  simp [posOf_eq, ids, List.idxOf?, h, hp]

theorem linkPos_head (c : Chain) : linkPos c .head = some 0 := rfl

theorem linkPos_after {c : Chain} {n : NodeId} {p : Nat} :
    linkPos c (.after n) = some p ↔ ∃ i, posOf n c = some i ∧ i + 1 = p := Option.map_eq_some_iff

theorem linkPos_le {c : Chain} {l : Link} {p : Nat} (h : linkPos c l = some p) : p ≤ c.length := by
  cases l with
  | head => cases h; exact Nat.zero_le _
  | after n => obtain ⟨i, hi, rfl⟩ := linkPos_after.mp h; exact posOf_lt hi

theorem linkPos_after_getElem {c : Chain} {p : Nat} {nd : Node} (hn : (ids c).Nodup) (h : c[p]? = some nd) :
    linkPos c (.after nd.id) = some (p + 1) :=
  linkPos_after.mpr ⟨p, posOf_of_getElem hn h, rfl⟩

theorem linkPos_take_append {c : Chain} {l : Link} {p : Nat} (r : Chain) (h : linkPos c l = some p) :
    linkPos (c.take p ++ r) l = some p := by
  cases l with
  | head => exact h
  | after n =>
    obtain ⟨i, hi, rfl⟩ := linkPos_after.mp h
    exact linkPos_after.mpr ⟨i, posOf_take_append r hi (Nat.lt_succ_self i), rfl⟩

theorem linkPos_append {c : Chain} {l : Link} {p : Nat} (r : Chain) (h : linkPos c l = some p) :
    linkPos (c ++ r) l = some p := by
  have := linkPos_take_append (c.drop p ++ r) h
  rwa [← List.append_assoc, List.take_append_drop] at this

theorem linkPos_eraseAt {c : Chain} {l : Link} {p : Nat} (h : linkPos c l = some p) :
    linkPos (eraseAt c p) l = some p := linkPos_take_append _ h

theorem linkPos_insertAt {c : Chain} {l : Link} {p : Nat} (nd : Node) (h : linkPos c l = some p) :
    linkPos (insertAt c p nd) l = some p := linkPos_take_append _ h

theorem linkPos_congr {c c' : Chain} (l : Link) (h : ids c = ids c') : linkPos c l = linkPos c' l := by
  cases l with
  | head => rfl
  | after n => simp only [linkPos, posOf_eq, h]

theorem eraseAt_eq (c : Chain) (p : Nat) : eraseAt c p = c.eraseIdx p := (List.eraseIdx_eq_take_drop_succ ..).symm

theorem eraseAt_sublist (c : Chain) (p : Nat) : (eraseAt c p).Sublist c := eraseAt_eq c p ▸ List.eraseIdx_sublist c p

theorem length_eraseAt {c : Chain} {p : Nat} (h : p < c.length) : (eraseAt c p).length = c.length - 1 :=
  eraseAt_eq c p ▸ List.length_eraseIdx_of_lt h

theorem map_eraseAt {α} (f : Node → α) (c : Chain) (p : Nat) : (eraseAt c p).map f = (c.map f).eraseIdx p := by
  simp [eraseAt, List.eraseIdx_eq_take_drop_succ, List.map_take, List.map_drop]

theorem ids_eraseAt (c : Chain) (p : Nat) : ids (eraseAt c p) = (ids c).eraseIdx p := map_eraseAt _ c p

theorem vals_eraseAt (c : Chain) (p : Nat) : vals (eraseAt c p) = (vals c).eraseIdx p := map_eraseAt _ c p

theorem ids_insertAt (c : Chain) (p : Nat) (nd : Node) :
    ids (insertAt c p nd) = (ids c).take p ++ nd.id :: (ids c).drop p := by
  simp [ids, insertAt, List.map_take, List.map_drop]

theorem vals_insertAt {c : Chain} {p : Nat} (nd : Node) (h : p ≤ c.length) :
    vals (insertAt c p nd) = (vals c).insertIdx p nd.val := by
  rw [insertIdx_eq_take_drop _ _ _ (by simpa [vals] using h)]
  simp [vals, insertAt, List.map_take, List.map_drop]

theorem insertAt_length (c : Chain) (nd : Node) : insertAt c c.length nd = c ++ [nd] := by
  simp [insertAt]

theorem insertAt_perm (c : Chain) (p : Nat) (nd : Node) : (insertAt c p nd).Perm (nd :: c) :=
  perm_take_cons_drop c p nd

theorem length_insertAt (c : Chain) (p : Nat) (nd : Node) : (insertAt c p nd).length = c.length + 1 :=
  (insertAt_perm c p nd).length_eq

theorem mem_insertAt {c : Chain} {p : Nat} {nd x : Node} : x ∈ insertAt c p nd ↔ x = nd ∨ x ∈ c :=
  (insertAt_perm c p nd).mem_iff.trans List.mem_cons

theorem ids_setAt (c : Chain) (p : Nat) (v : Val) : ids (setAt c p v) = ids c := by
  unfold setAt
  split
  · rename_i nd h
    obtain ⟨hp, rfl⟩ := List.getElem?_eq_some_iff.mp h
    have : (ids c)[p]'(by simpa [ids] using hp) = c[p].id := List.getElem_map ..
    show (c.set p _).map _ = ids c
    rw [List.map_set, ← this]; exact List.set_getElem_self ..
  · rfl

theorem vals_setAt (c : Chain) (p : Nat) (v : Val) : vals (setAt c p v) = (vals c).set p v := by
  unfold setAt
  split
  · simp [vals, List.map_set]
  · rename_i h
    rw [List.set_eq_of_length_le (by simpa [vals] using h)]

theorem length_setAt (c : Chain) (p : Nat) (v : Val) : (setAt c p v).length = c.length := by
  simpa [ids] using congrArg List.length (ids_setAt c p v)

theorem linkPos_setAt {c : Chain} (l : Link) (p : Nat) (v : Val) : linkPos (setAt c p v) l = linkPos c l :=
  linkPos_congr l (ids_setAt c p v)

theorem getElem?_split {c : Chain} {p : Nat} {nd : Node} (h : c[p]? = some nd) :
    c = c.take p ++ nd :: c.drop (p + 1) := by
  obtain ⟨hp, rfl⟩ := List.getElem?_eq_some_iff.mp h
  rw [List.getElem_cons_drop, List.take_append_drop]

structure Cont.WF (q : Cont) : Prop where
  len : q.len = q.chain.length
  nodup : (ids q.chain).Nodup
  fresh : ∀ nd ∈ q.chain, nd.id < q.fresh
  nonnull : ∀ nd ∈ q.chain, nd.val ≠ 0

theorem Cont.WF.nil {q : Cont} (hc : q.chain = []) (hl : q.len = 0) : q.WF where
  len := by rw [hl, hc]; rfl
  nodup := by rw [hc]; exact List.nodup_nil
  fresh := by rw [hc]; nofun
  nonnull := by rw [hc]; nofun

theorem Cont.WF.ids_lt {q : Cont} (h : q.WF) {x : NodeId} (hx : x ∈ ids q.chain) : x < q.fresh :=
  have ⟨nd, hnd, e⟩ := List.mem_map.mp hx
  e ▸ h.fresh nd hnd

theorem Cont.WF.withTail {q : Cont} (h : q.WF) (t : Option NodeId) : Cont.WF { q with tail := t } :=
  ⟨h.len, h.nodup, h.fresh, h.nonnull⟩

theorem Cont.WF.erase {q : Cont} (h : q.WF) {p : Nat} (hp : p < q.chain.length) (t : Option NodeId) :
    Cont.WF { q with chain := eraseAt q.chain p, len := q.len - 1, tail := t } where
  len := by simp [length_eraseAt hp, h.len]
  nodup := List.Nodup.sublist ((eraseAt_sublist _ _).map _) h.nodup
  fresh := fun nd hnd => h.fresh nd ((eraseAt_sublist _ _).subset hnd)
  nonnull := fun nd hnd => h.nonnull nd ((eraseAt_sublist _ _).subset hnd)

theorem Cont.WF.insert {q : Cont} (h : q.WF) {p : Nat} (hp : p ≤ q.chain.length) {v : Val} (hv : v ≠ 0) :
    Cont.WF { q with chain := insertAt q.chain p ⟨q.fresh, v⟩, len := q.len + 1, fresh := q.fresh + 1 } where
  len := by simp [length_insertAt, h.len]
  nodup := by
    show (ids (insertAt q.chain p ⟨q.fresh, v⟩)).Nodup
    rw [ids, ((insertAt_perm ..).map _).nodup_iff, List.map_cons, List.nodup_cons]
    exact ⟨fun hm => Nat.lt_irrefl _ (h.ids_lt hm), h.nodup⟩
  fresh := fun x hx => by
    rcases mem_insertAt.mp hx with rfl | hm
    · exact Nat.lt_succ_self _
    · exact Nat.lt_succ_of_lt (h.fresh x hm)
  nonnull := fun x hx => by
    rcases mem_insertAt.mp hx with rfl | hm
    · exact hv
    · exact h.nonnull x hm

theorem Cont.WF.set {q : Cont} (h : q.WF) (p : Nat) {v : Val} (hv : v ≠ 0) :
    Cont.WF { q with chain := setAt q.chain p v } where
  len := by simp [length_setAt, h.len]
  nodup := by show (ids (setAt q.chain p v)).Nodup; rw [ids_setAt]; exact h.nodup
  fresh := fun _ hnd => h.ids_lt (ids_setAt q.chain p v ▸ List.mem_map_of_mem hnd)
  nonnull := by
    intro nd hnd
    simp only [setAt] at hnd
    split at hnd
    · rcases List.mem_or_eq_of_mem_set hnd with hm | rfl
      · exact h.nonnull nd hm
      · exact hv
    · exact h.nonnull nd hnd

/-- what a correct `tail` pointer of the queue holds -/
def lastId (c : Chain) : Option NodeId := (c.getLast?).map (·.id)

theorem last_unique {c : Chain} {p : Nat} {tmp : Node} (hn : (ids c).Nodup) (h : c[p]? = some tmp)
    (ht : lastId c = some tmp.id) : p + 1 = c.length := by
  simp only [lastId, List.getLast?_eq_getElem?, Option.map_eq_some_iff] at ht
  obtain ⟨l, hl, e⟩ := ht
  have h1 := posOf_of_getElem hn hl
  have h2 := posOf_of_getElem hn h
  rw [e, h2] at h1
  have := lt_of_getElem?_some h
  have := Option.some.inj h1
  omega

theorem lastId_of_last {c : Chain} {p : Nat} {tmp : Node} (h : c[p]? = some tmp) (hp : p + 1 = c.length) :
    lastId c = some tmp.id := by
  rw [lastId, List.getLast?_eq_getElem?, ← hp, Nat.add_sub_cancel, h]; rfl

theorem lastId_eraseAt_of_lt {c : Chain} {p : Nat} (hp : p + 1 < c.length) : lastId (eraseAt c p) = lastId c := by
  have : ¬ c.length ≤ p + 1 := by omega
  have hl : c.getLast? ≠ none := by simp [List.getLast?_eq_none_iff]; intro e; simp [e] at hp
  cases hc : c.getLast? with
  | none => exact absurd hc hl
  | some x => simp [lastId, eraseAt, List.getLast?_append, List.getLast?_drop, this, hc]

/-- why `m_queue_itr_remove`, unlinking the tail node, sets `tail` to the owner of the iterator's link (D-12a) -/
theorem lastId_eraseAt_last {c : Chain} {p : Nat} {l : Link} (hl : linkPos c l = some p) (hp : p + 1 = c.length) :
    lastId (eraseAt c p) = l.owner := by
  have hd : c.drop (p + 1) = [] := by simp [List.drop_eq_nil_iff]; omega
  simp only [lastId, eraseAt, hd, List.append_nil]
  cases l with
  | head => cases hl; rfl
  | after n =>
    obtain ⟨i, hi, rfl⟩ := linkPos_after.mp hl
    obtain ⟨nd, h1, h2⟩ := posOf_getElem hi
    simp [List.getLast?_take, h1, h2, Link.owner]

theorem lastId_eq_ids (c : Chain) : lastId c = (ids c).getLast? := by
  simp [lastId, ids, List.getLast?_map]

theorem lastId_setAt (c : Chain) (p : Nat) (v : Val) : lastId (setAt c p v) = lastId c := by
  rw [lastId_eq_ids, lastId_eq_ids, ids_setAt]

theorem lastId_concat (c : Chain) (nd : Node) : lastId (c ++ [nd]) = some nd.id := by
  simp [lastId]

end Lm.Struct
