import Lm.Thpool
/-!
# Program-counter classes of the thread-pool transition system

Each class is a total function on `Pc` together with one `@[simp]` equation per constructor, so
that `simp` evaluates a class on a concrete program counter and leaves `cls (s.pc u)` alone.
(Written by `tools/mk_thpoolpc.py`; the equations are mechanical.)
-/
namespace Lm.Thpool

/-- the thread owns the pool mutex -/
def holds : Pc → Bool
  | .wLoop | .wWait | .wBreakChk | .wBreakLen | .wDequeue | .wUnlock | .wExitDec | .wExitBcast | .wExitUnlock | .sShutChk | .sPermUnlock | .sLazy0 | .sLazy1 | .sLazy2 | .sCreate | .sInsert | .sFailUnlock | .sEnq | .sSignal | .sUnlock | .nShutChk | .nPermUnlock | .nLazy0 | .nLazy1 | .nLazy2 | .nCreate | .nInsert | .nFailUnlock | .nEnq | .nSignal | .nUnlock | .fSetShut | .fBcast | .fAliveChk | .fWait | .fUnlock => true
  | _ => false
@[simp] theorem holds_none : holds .none = false := rfl
@[simp] theorem holds_wLock : holds .wLock = false := rfl
@[simp] theorem holds_wLoop : holds .wLoop = true := rfl
@[simp] theorem holds_wWait : holds .wWait = true := rfl
@[simp] theorem holds_wWaiting : holds .wWaiting = false := rfl
@[simp] theorem holds_wBreakChk : holds .wBreakChk = true := rfl
@[simp] theorem holds_wBreakLen : holds .wBreakLen = true := rfl
@[simp] theorem holds_wDequeue : holds .wDequeue = true := rfl
@[simp] theorem holds_wUnlock : holds .wUnlock = true := rfl
@[simp] theorem holds_wInc : holds .wInc = false := rfl
@[simp] theorem holds_wCall : holds .wCall = false := rfl
@[simp] theorem holds_wInTask : holds .wInTask = false := rfl
@[simp] theorem holds_wDec : holds .wDec = false := rfl
@[simp] theorem holds_wExitDec : holds .wExitDec = true := rfl
@[simp] theorem holds_wExitBcast : holds .wExitBcast = true := rfl
@[simp] theorem holds_wExitUnlock : holds .wExitUnlock = true := rfl
@[simp] theorem holds_wRet : holds .wRet = false := rfl
@[simp] theorem holds_wDone : holds .wDone = false := rfl
@[simp] theorem holds_sIdle : holds .sIdle = false := rfl
@[simp] theorem holds_sLock : holds .sLock = false := rfl
@[simp] theorem holds_sShutChk : holds .sShutChk = true := rfl
@[simp] theorem holds_sPermUnlock : holds .sPermUnlock = true := rfl
@[simp] theorem holds_sLazy0 : holds .sLazy0 = true := rfl
@[simp] theorem holds_sLazy1 : holds .sLazy1 = true := rfl
@[simp] theorem holds_sLazy2 : holds .sLazy2 = true := rfl
@[simp] theorem holds_sCreate : holds .sCreate = true := rfl
@[simp] theorem holds_sInsert : holds .sInsert = true := rfl
@[simp] theorem holds_sFailUnlock : holds .sFailUnlock = true := rfl
@[simp] theorem holds_sEnq : holds .sEnq = true := rfl
@[simp] theorem holds_sSignal : holds .sSignal = true := rfl
@[simp] theorem holds_sUnlock : holds .sUnlock = true := rfl
@[simp] theorem holds_sRetOk : holds .sRetOk = false := rfl
@[simp] theorem holds_sRetPerm : holds .sRetPerm = false := rfl
@[simp] theorem holds_sRetFail : holds .sRetFail = false := rfl
@[simp] theorem holds_nLock : holds .nLock = false := rfl
@[simp] theorem holds_nShutChk : holds .nShutChk = true := rfl
@[simp] theorem holds_nPermUnlock : holds .nPermUnlock = true := rfl
@[simp] theorem holds_nLazy0 : holds .nLazy0 = true := rfl
@[simp] theorem holds_nLazy1 : holds .nLazy1 = true := rfl
@[simp] theorem holds_nLazy2 : holds .nLazy2 = true := rfl
@[simp] theorem holds_nCreate : holds .nCreate = true := rfl
@[simp] theorem holds_nInsert : holds .nInsert = true := rfl
@[simp] theorem holds_nFailUnlock : holds .nFailUnlock = true := rfl
@[simp] theorem holds_nEnq : holds .nEnq = true := rfl
@[simp] theorem holds_nSignal : holds .nSignal = true := rfl
@[simp] theorem holds_nUnlock : holds .nUnlock = true := rfl
@[simp] theorem holds_nRetOk : holds .nRetOk = false := rfl
@[simp] theorem holds_nRetPerm : holds .nRetPerm = false := rfl
@[simp] theorem holds_nRetFail : holds .nRetFail = false := rfl
@[simp] theorem holds_mNewCreate : holds .mNewCreate = false := rfl
@[simp] theorem holds_mNewInsert : holds .mNewInsert = false := rfl
@[simp] theorem holds_mNewRet : holds .mNewRet = false := rfl
@[simp] theorem holds_mIdle : holds .mIdle = false := rfl
@[simp] theorem holds_fLock : holds .fLock = false := rfl
@[simp] theorem holds_fSetShut : holds .fSetShut = true := rfl
@[simp] theorem holds_fBcast : holds .fBcast = true := rfl
@[simp] theorem holds_fAliveChk : holds .fAliveChk = true := rfl
@[simp] theorem holds_fWait : holds .fWait = true := rfl
@[simp] theorem holds_fWaiting : holds .fWaiting = false := rfl
@[simp] theorem holds_fUnlock : holds .fUnlock = true := rfl
@[simp] theorem holds_fJoinInit : holds .fJoinInit = false := rfl
@[simp] theorem holds_fJoin : holds .fJoin = false := rfl
@[simp] theorem holds_fCondDestroy : holds .fCondDestroy = false := rfl
@[simp] theorem holds_fMutDestroy : holds .fMutDestroy = false := rfl
@[simp] theorem holds_fQueueFree : holds .fQueueFree = false := rfl
@[simp] theorem holds_fListFree : holds .fListFree = false := rfl
@[simp] theorem holds_fFreePool : holds .fFreePool = false := rfl
@[simp] theorem holds_fRet : holds .fRet = false := rfl
@[simp] theorem holds_mDone : holds .mDone = false := rfl

/-- a pool worker thread (any stage, including returned, including inside a `m_thpool_add` it calls from its task) -/
def isW : Pc → Bool
  | .wLock | .wLoop | .wWait | .wWaiting | .wBreakChk | .wBreakLen | .wDequeue | .wUnlock | .wInc | .wCall | .wInTask | .wDec | .wExitDec | .wExitBcast | .wExitUnlock | .wRet | .wDone | .nLock | .nShutChk | .nPermUnlock | .nLazy0 | .nLazy1 | .nLazy2 | .nCreate | .nInsert | .nFailUnlock | .nEnq | .nSignal | .nUnlock | .nRetOk | .nRetPerm | .nRetFail => true
  | _ => false
@[simp] theorem isW_none : isW .none = false := rfl
@[simp] theorem isW_wLock : isW .wLock = true := rfl
@[simp] theorem isW_wLoop : isW .wLoop = true := rfl
@[simp] theorem isW_wWait : isW .wWait = true := rfl
@[simp] theorem isW_wWaiting : isW .wWaiting = true := rfl
@[simp] theorem isW_wBreakChk : isW .wBreakChk = true := rfl
@[simp] theorem isW_wBreakLen : isW .wBreakLen = true := rfl
@[simp] theorem isW_wDequeue : isW .wDequeue = true := rfl
@[simp] theorem isW_wUnlock : isW .wUnlock = true := rfl
@[simp] theorem isW_wInc : isW .wInc = true := rfl
@[simp] theorem isW_wCall : isW .wCall = true := rfl
@[simp] theorem isW_wInTask : isW .wInTask = true := rfl
@[simp] theorem isW_wDec : isW .wDec = true := rfl
@[simp] theorem isW_wExitDec : isW .wExitDec = true := rfl
@[simp] theorem isW_wExitBcast : isW .wExitBcast = true := rfl
@[simp] theorem isW_wExitUnlock : isW .wExitUnlock = true := rfl
@[simp] theorem isW_wRet : isW .wRet = true := rfl
@[simp] theorem isW_wDone : isW .wDone = true := rfl
@[simp] theorem isW_sIdle : isW .sIdle = false := rfl
@[simp] theorem isW_sLock : isW .sLock = false := rfl
@[simp] theorem isW_sShutChk : isW .sShutChk = false := rfl
@[simp] theorem isW_sPermUnlock : isW .sPermUnlock = false := rfl
@[simp] theorem isW_sLazy0 : isW .sLazy0 = false := rfl
@[simp] theorem isW_sLazy1 : isW .sLazy1 = false := rfl
@[simp] theorem isW_sLazy2 : isW .sLazy2 = false := rfl
@[simp] theorem isW_sCreate : isW .sCreate = false := rfl
@[simp] theorem isW_sInsert : isW .sInsert = false := rfl
@[simp] theorem isW_sFailUnlock : isW .sFailUnlock = false := rfl
@[simp] theorem isW_sEnq : isW .sEnq = false := rfl
@[simp] theorem isW_sSignal : isW .sSignal = false := rfl
@[simp] theorem isW_sUnlock : isW .sUnlock = false := rfl
@[simp] theorem isW_sRetOk : isW .sRetOk = false := rfl
@[simp] theorem isW_sRetPerm : isW .sRetPerm = false := rfl
@[simp] theorem isW_sRetFail : isW .sRetFail = false := rfl
@[simp] theorem isW_nLock : isW .nLock = true := rfl
@[simp] theorem isW_nShutChk : isW .nShutChk = true := rfl
@[simp] theorem isW_nPermUnlock : isW .nPermUnlock = true := rfl
@[simp] theorem isW_nLazy0 : isW .nLazy0 = true := rfl
@[simp] theorem isW_nLazy1 : isW .nLazy1 = true := rfl
@[simp] theorem isW_nLazy2 : isW .nLazy2 = true := rfl
@[simp] theorem isW_nCreate : isW .nCreate = true := rfl
@[simp] theorem isW_nInsert : isW .nInsert = true := rfl
@[simp] theorem isW_nFailUnlock : isW .nFailUnlock = true := rfl
@[simp] theorem isW_nEnq : isW .nEnq = true := rfl
@[simp] theorem isW_nSignal : isW .nSignal = true := rfl
@[simp] theorem isW_nUnlock : isW .nUnlock = true := rfl
@[simp] theorem isW_nRetOk : isW .nRetOk = true := rfl
@[simp] theorem isW_nRetPerm : isW .nRetPerm = true := rfl
@[simp] theorem isW_nRetFail : isW .nRetFail = true := rfl
@[simp] theorem isW_mNewCreate : isW .mNewCreate = false := rfl
@[simp] theorem isW_mNewInsert : isW .mNewInsert = false := rfl
@[simp] theorem isW_mNewRet : isW .mNewRet = false := rfl
@[simp] theorem isW_mIdle : isW .mIdle = false := rfl
@[simp] theorem isW_fLock : isW .fLock = false := rfl
@[simp] theorem isW_fSetShut : isW .fSetShut = false := rfl
@[simp] theorem isW_fBcast : isW .fBcast = false := rfl
@[simp] theorem isW_fAliveChk : isW .fAliveChk = false := rfl
@[simp] theorem isW_fWait : isW .fWait = false := rfl
@[simp] theorem isW_fWaiting : isW .fWaiting = false := rfl
@[simp] theorem isW_fUnlock : isW .fUnlock = false := rfl
@[simp] theorem isW_fJoinInit : isW .fJoinInit = false := rfl
@[simp] theorem isW_fJoin : isW .fJoin = false := rfl
@[simp] theorem isW_fCondDestroy : isW .fCondDestroy = false := rfl
@[simp] theorem isW_fMutDestroy : isW .fMutDestroy = false := rfl
@[simp] theorem isW_fQueueFree : isW .fQueueFree = false := rfl
@[simp] theorem isW_fListFree : isW .fListFree = false := rfl
@[simp] theorem isW_fFreePool : isW .fFreePool = false := rfl
@[simp] theorem isW_fRet : isW .fRet = false := rfl
@[simp] theorem isW_mDone : isW .mDone = false := rfl

/-- a submitter thread inside m_thpool_add -/
def isS : Pc → Bool
  | .sLock | .sShutChk | .sPermUnlock | .sLazy0 | .sLazy1 | .sLazy2 | .sCreate | .sInsert | .sFailUnlock | .sEnq | .sSignal | .sUnlock | .sRetOk | .sRetPerm | .sRetFail => true
  | _ => false
@[simp] theorem isS_none : isS .none = false := rfl
@[simp] theorem isS_wLock : isS .wLock = false := rfl
@[simp] theorem isS_wLoop : isS .wLoop = false := rfl
@[simp] theorem isS_wWait : isS .wWait = false := rfl
@[simp] theorem isS_wWaiting : isS .wWaiting = false := rfl
@[simp] theorem isS_wBreakChk : isS .wBreakChk = false := rfl
@[simp] theorem isS_wBreakLen : isS .wBreakLen = false := rfl
@[simp] theorem isS_wDequeue : isS .wDequeue = false := rfl
@[simp] theorem isS_wUnlock : isS .wUnlock = false := rfl
@[simp] theorem isS_wInc : isS .wInc = false := rfl
@[simp] theorem isS_wCall : isS .wCall = false := rfl
@[simp] theorem isS_wInTask : isS .wInTask = false := rfl
@[simp] theorem isS_wDec : isS .wDec = false := rfl
@[simp] theorem isS_wExitDec : isS .wExitDec = false := rfl
@[simp] theorem isS_wExitBcast : isS .wExitBcast = false := rfl
@[simp] theorem isS_wExitUnlock : isS .wExitUnlock = false := rfl
@[simp] theorem isS_wRet : isS .wRet = false := rfl
@[simp] theorem isS_wDone : isS .wDone = false := rfl
@[simp] theorem isS_sIdle : isS .sIdle = false := rfl
@[simp] theorem isS_sLock : isS .sLock = true := rfl
@[simp] theorem isS_sShutChk : isS .sShutChk = true := rfl
@[simp] theorem isS_sPermUnlock : isS .sPermUnlock = true := rfl
@[simp] theorem isS_sLazy0 : isS .sLazy0 = true := rfl
@[simp] theorem isS_sLazy1 : isS .sLazy1 = true := rfl
@[simp] theorem isS_sLazy2 : isS .sLazy2 = true := rfl
@[simp] theorem isS_sCreate : isS .sCreate = true := rfl
@[simp] theorem isS_sInsert : isS .sInsert = true := rfl
@[simp] theorem isS_sFailUnlock : isS .sFailUnlock = true := rfl
@[simp] theorem isS_sEnq : isS .sEnq = true := rfl
@[simp] theorem isS_sSignal : isS .sSignal = true := rfl
@[simp] theorem isS_sUnlock : isS .sUnlock = true := rfl
@[simp] theorem isS_sRetOk : isS .sRetOk = true := rfl
@[simp] theorem isS_sRetPerm : isS .sRetPerm = true := rfl
@[simp] theorem isS_sRetFail : isS .sRetFail = true := rfl
@[simp] theorem isS_nLock : isS .nLock = false := rfl
@[simp] theorem isS_nShutChk : isS .nShutChk = false := rfl
@[simp] theorem isS_nPermUnlock : isS .nPermUnlock = false := rfl
@[simp] theorem isS_nLazy0 : isS .nLazy0 = false := rfl
@[simp] theorem isS_nLazy1 : isS .nLazy1 = false := rfl
@[simp] theorem isS_nLazy2 : isS .nLazy2 = false := rfl
@[simp] theorem isS_nCreate : isS .nCreate = false := rfl
@[simp] theorem isS_nInsert : isS .nInsert = false := rfl
@[simp] theorem isS_nFailUnlock : isS .nFailUnlock = false := rfl
@[simp] theorem isS_nEnq : isS .nEnq = false := rfl
@[simp] theorem isS_nSignal : isS .nSignal = false := rfl
@[simp] theorem isS_nUnlock : isS .nUnlock = false := rfl
@[simp] theorem isS_nRetOk : isS .nRetOk = false := rfl
@[simp] theorem isS_nRetPerm : isS .nRetPerm = false := rfl
@[simp] theorem isS_nRetFail : isS .nRetFail = false := rfl
@[simp] theorem isS_mNewCreate : isS .mNewCreate = false := rfl
@[simp] theorem isS_mNewInsert : isS .mNewInsert = false := rfl
@[simp] theorem isS_mNewRet : isS .mNewRet = false := rfl
@[simp] theorem isS_mIdle : isS .mIdle = false := rfl
@[simp] theorem isS_fLock : isS .fLock = false := rfl
@[simp] theorem isS_fSetShut : isS .fSetShut = false := rfl
@[simp] theorem isS_fBcast : isS .fBcast = false := rfl
@[simp] theorem isS_fAliveChk : isS .fAliveChk = false := rfl
@[simp] theorem isS_fWait : isS .fWait = false := rfl
@[simp] theorem isS_fWaiting : isS .fWaiting = false := rfl
@[simp] theorem isS_fUnlock : isS .fUnlock = false := rfl
@[simp] theorem isS_fJoinInit : isS .fJoinInit = false := rfl
@[simp] theorem isS_fJoin : isS .fJoin = false := rfl
@[simp] theorem isS_fCondDestroy : isS .fCondDestroy = false := rfl
@[simp] theorem isS_fMutDestroy : isS .fMutDestroy = false := rfl
@[simp] theorem isS_fQueueFree : isS .fQueueFree = false := rfl
@[simp] theorem isS_fListFree : isS .fListFree = false := rfl
@[simp] theorem isS_fFreePool : isS .fFreePool = false := rfl
@[simp] theorem isS_fRet : isS .fRet = false := rfl
@[simp] theorem isS_mDone : isS .mDone = false := rfl

/-- thread 0: m_thpool_new / idle / m_thpool_free -/
def isM : Pc → Bool
  | .mNewCreate | .mNewInsert | .mNewRet | .mIdle | .fLock | .fSetShut | .fBcast | .fAliveChk | .fWait | .fWaiting | .fUnlock | .fJoinInit | .fJoin | .fCondDestroy | .fMutDestroy | .fQueueFree | .fListFree | .fFreePool | .fRet | .mDone => true
  | _ => false
@[simp] theorem isM_none : isM .none = false := rfl
@[simp] theorem isM_wLock : isM .wLock = false := rfl
@[simp] theorem isM_wLoop : isM .wLoop = false := rfl
@[simp] theorem isM_wWait : isM .wWait = false := rfl
@[simp] theorem isM_wWaiting : isM .wWaiting = false := rfl
@[simp] theorem isM_wBreakChk : isM .wBreakChk = false := rfl
@[simp] theorem isM_wBreakLen : isM .wBreakLen = false := rfl
@[simp] theorem isM_wDequeue : isM .wDequeue = false := rfl
@[simp] theorem isM_wUnlock : isM .wUnlock = false := rfl
@[simp] theorem isM_wInc : isM .wInc = false := rfl
@[simp] theorem isM_wCall : isM .wCall = false := rfl
@[simp] theorem isM_wInTask : isM .wInTask = false := rfl
@[simp] theorem isM_wDec : isM .wDec = false := rfl
@[simp] theorem isM_wExitDec : isM .wExitDec = false := rfl
@[simp] theorem isM_wExitBcast : isM .wExitBcast = false := rfl
@[simp] theorem isM_wExitUnlock : isM .wExitUnlock = false := rfl
@[simp] theorem isM_wRet : isM .wRet = false := rfl
@[simp] theorem isM_wDone : isM .wDone = false := rfl
@[simp] theorem isM_sIdle : isM .sIdle = false := rfl
@[simp] theorem isM_sLock : isM .sLock = false := rfl
@[simp] theorem isM_sShutChk : isM .sShutChk = false := rfl
@[simp] theorem isM_sPermUnlock : isM .sPermUnlock = false := rfl
@[simp] theorem isM_sLazy0 : isM .sLazy0 = false := rfl
@[simp] theorem isM_sLazy1 : isM .sLazy1 = false := rfl
@[simp] theorem isM_sLazy2 : isM .sLazy2 = false := rfl
@[simp] theorem isM_sCreate : isM .sCreate = false := rfl
@[simp] theorem isM_sInsert : isM .sInsert = false := rfl
@[simp] theorem isM_sFailUnlock : isM .sFailUnlock = false := rfl
@[simp] theorem isM_sEnq : isM .sEnq = false := rfl
@[simp] theorem isM_sSignal : isM .sSignal = false := rfl
@[simp] theorem isM_sUnlock : isM .sUnlock = false := rfl
@[simp] theorem isM_sRetOk : isM .sRetOk = false := rfl
@[simp] theorem isM_sRetPerm : isM .sRetPerm = false := rfl
@[simp] theorem isM_sRetFail : isM .sRetFail = false := rfl
@[simp] theorem isM_nLock : isM .nLock = false := rfl
@[simp] theorem isM_nShutChk : isM .nShutChk = false := rfl
@[simp] theorem isM_nPermUnlock : isM .nPermUnlock = false := rfl
@[simp] theorem isM_nLazy0 : isM .nLazy0 = false := rfl
@[simp] theorem isM_nLazy1 : isM .nLazy1 = false := rfl
@[simp] theorem isM_nLazy2 : isM .nLazy2 = false := rfl
@[simp] theorem isM_nCreate : isM .nCreate = false := rfl
@[simp] theorem isM_nInsert : isM .nInsert = false := rfl
@[simp] theorem isM_nFailUnlock : isM .nFailUnlock = false := rfl
@[simp] theorem isM_nEnq : isM .nEnq = false := rfl
@[simp] theorem isM_nSignal : isM .nSignal = false := rfl
@[simp] theorem isM_nUnlock : isM .nUnlock = false := rfl
@[simp] theorem isM_nRetOk : isM .nRetOk = false := rfl
@[simp] theorem isM_nRetPerm : isM .nRetPerm = false := rfl
@[simp] theorem isM_nRetFail : isM .nRetFail = false := rfl
@[simp] theorem isM_mNewCreate : isM .mNewCreate = true := rfl
@[simp] theorem isM_mNewInsert : isM .mNewInsert = true := rfl
@[simp] theorem isM_mNewRet : isM .mNewRet = true := rfl
@[simp] theorem isM_mIdle : isM .mIdle = true := rfl
@[simp] theorem isM_fLock : isM .fLock = true := rfl
@[simp] theorem isM_fSetShut : isM .fSetShut = true := rfl
@[simp] theorem isM_fBcast : isM .fBcast = true := rfl
@[simp] theorem isM_fAliveChk : isM .fAliveChk = true := rfl
@[simp] theorem isM_fWait : isM .fWait = true := rfl
@[simp] theorem isM_fWaiting : isM .fWaiting = true := rfl
@[simp] theorem isM_fUnlock : isM .fUnlock = true := rfl
@[simp] theorem isM_fJoinInit : isM .fJoinInit = true := rfl
@[simp] theorem isM_fJoin : isM .fJoin = true := rfl
@[simp] theorem isM_fCondDestroy : isM .fCondDestroy = true := rfl
@[simp] theorem isM_fMutDestroy : isM .fMutDestroy = true := rfl
@[simp] theorem isM_fQueueFree : isM .fQueueFree = true := rfl
@[simp] theorem isM_fListFree : isM .fListFree = true := rfl
@[simp] theorem isM_fFreePool : isM .fFreePool = true := rfl
@[simp] theorem isM_fRet : isM .fRet = true := rfl
@[simp] theorem isM_mDone : isM .mDone = true := rfl

/-- a submitter inside m_thpool_add, before the task is enqueued, on a path that can still reach the enqueue -/
def preEnq : Pc → Bool
  | .sLock | .sShutChk | .sLazy0 | .sLazy1 | .sLazy2 | .sCreate | .sInsert | .sEnq => true
  | _ => false
@[simp] theorem preEnq_none : preEnq .none = false := rfl
@[simp] theorem preEnq_wLock : preEnq .wLock = false := rfl
@[simp] theorem preEnq_wLoop : preEnq .wLoop = false := rfl
@[simp] theorem preEnq_wWait : preEnq .wWait = false := rfl
@[simp] theorem preEnq_wWaiting : preEnq .wWaiting = false := rfl
@[simp] theorem preEnq_wBreakChk : preEnq .wBreakChk = false := rfl
@[simp] theorem preEnq_wBreakLen : preEnq .wBreakLen = false := rfl
@[simp] theorem preEnq_wDequeue : preEnq .wDequeue = false := rfl
@[simp] theorem preEnq_wUnlock : preEnq .wUnlock = false := rfl
@[simp] theorem preEnq_wInc : preEnq .wInc = false := rfl
@[simp] theorem preEnq_wCall : preEnq .wCall = false := rfl
@[simp] theorem preEnq_wInTask : preEnq .wInTask = false := rfl
@[simp] theorem preEnq_wDec : preEnq .wDec = false := rfl
@[simp] theorem preEnq_wExitDec : preEnq .wExitDec = false := rfl
@[simp] theorem preEnq_wExitBcast : preEnq .wExitBcast = false := rfl
@[simp] theorem preEnq_wExitUnlock : preEnq .wExitUnlock = false := rfl
@[simp] theorem preEnq_wRet : preEnq .wRet = false := rfl
@[simp] theorem preEnq_wDone : preEnq .wDone = false := rfl
@[simp] theorem preEnq_sIdle : preEnq .sIdle = false := rfl
@[simp] theorem preEnq_sLock : preEnq .sLock = true := rfl
@[simp] theorem preEnq_sShutChk : preEnq .sShutChk = true := rfl
@[simp] theorem preEnq_sPermUnlock : preEnq .sPermUnlock = false := rfl
@[simp] theorem preEnq_sLazy0 : preEnq .sLazy0 = true := rfl
@[simp] theorem preEnq_sLazy1 : preEnq .sLazy1 = true := rfl
@[simp] theorem preEnq_sLazy2 : preEnq .sLazy2 = true := rfl
@[simp] theorem preEnq_sCreate : preEnq .sCreate = true := rfl
@[simp] theorem preEnq_sInsert : preEnq .sInsert = true := rfl
@[simp] theorem preEnq_sFailUnlock : preEnq .sFailUnlock = false := rfl
@[simp] theorem preEnq_sEnq : preEnq .sEnq = true := rfl
@[simp] theorem preEnq_sSignal : preEnq .sSignal = false := rfl
@[simp] theorem preEnq_sUnlock : preEnq .sUnlock = false := rfl
@[simp] theorem preEnq_sRetOk : preEnq .sRetOk = false := rfl
@[simp] theorem preEnq_sRetPerm : preEnq .sRetPerm = false := rfl
@[simp] theorem preEnq_sRetFail : preEnq .sRetFail = false := rfl
@[simp] theorem preEnq_nLock : preEnq .nLock = false := rfl
@[simp] theorem preEnq_nShutChk : preEnq .nShutChk = false := rfl
@[simp] theorem preEnq_nPermUnlock : preEnq .nPermUnlock = false := rfl
@[simp] theorem preEnq_nLazy0 : preEnq .nLazy0 = false := rfl
@[simp] theorem preEnq_nLazy1 : preEnq .nLazy1 = false := rfl
@[simp] theorem preEnq_nLazy2 : preEnq .nLazy2 = false := rfl
@[simp] theorem preEnq_nCreate : preEnq .nCreate = false := rfl
@[simp] theorem preEnq_nInsert : preEnq .nInsert = false := rfl
@[simp] theorem preEnq_nFailUnlock : preEnq .nFailUnlock = false := rfl
@[simp] theorem preEnq_nEnq : preEnq .nEnq = false := rfl
@[simp] theorem preEnq_nSignal : preEnq .nSignal = false := rfl
@[simp] theorem preEnq_nUnlock : preEnq .nUnlock = false := rfl
@[simp] theorem preEnq_nRetOk : preEnq .nRetOk = false := rfl
@[simp] theorem preEnq_nRetPerm : preEnq .nRetPerm = false := rfl
@[simp] theorem preEnq_nRetFail : preEnq .nRetFail = false := rfl
@[simp] theorem preEnq_mNewCreate : preEnq .mNewCreate = false := rfl
@[simp] theorem preEnq_mNewInsert : preEnq .mNewInsert = false := rfl
@[simp] theorem preEnq_mNewRet : preEnq .mNewRet = false := rfl
@[simp] theorem preEnq_mIdle : preEnq .mIdle = false := rfl
@[simp] theorem preEnq_fLock : preEnq .fLock = false := rfl
@[simp] theorem preEnq_fSetShut : preEnq .fSetShut = false := rfl
@[simp] theorem preEnq_fBcast : preEnq .fBcast = false := rfl
@[simp] theorem preEnq_fAliveChk : preEnq .fAliveChk = false := rfl
@[simp] theorem preEnq_fWait : preEnq .fWait = false := rfl
@[simp] theorem preEnq_fWaiting : preEnq .fWaiting = false := rfl
@[simp] theorem preEnq_fUnlock : preEnq .fUnlock = false := rfl
@[simp] theorem preEnq_fJoinInit : preEnq .fJoinInit = false := rfl
@[simp] theorem preEnq_fJoin : preEnq .fJoin = false := rfl
@[simp] theorem preEnq_fCondDestroy : preEnq .fCondDestroy = false := rfl
@[simp] theorem preEnq_fMutDestroy : preEnq .fMutDestroy = false := rfl
@[simp] theorem preEnq_fQueueFree : preEnq .fQueueFree = false := rfl
@[simp] theorem preEnq_fListFree : preEnq .fListFree = false := rfl
@[simp] theorem preEnq_fFreePool : preEnq .fFreePool = false := rfl
@[simp] theorem preEnq_fRet : preEnq .fRet = false := rfl
@[simp] theorem preEnq_mDone : preEnq .mDone = false := rfl

/-- a worker inside the m_thpool_add it called from its task, before the new task is enqueued -/
def nPreEnq : Pc → Bool
  | .nLock | .nShutChk | .nLazy0 | .nLazy1 | .nLazy2 | .nCreate | .nInsert | .nEnq => true
  | _ => false
@[simp] theorem nPreEnq_none : nPreEnq .none = false := rfl
@[simp] theorem nPreEnq_wLock : nPreEnq .wLock = false := rfl
@[simp] theorem nPreEnq_wLoop : nPreEnq .wLoop = false := rfl
@[simp] theorem nPreEnq_wWait : nPreEnq .wWait = false := rfl
@[simp] theorem nPreEnq_wWaiting : nPreEnq .wWaiting = false := rfl
@[simp] theorem nPreEnq_wBreakChk : nPreEnq .wBreakChk = false := rfl
@[simp] theorem nPreEnq_wBreakLen : nPreEnq .wBreakLen = false := rfl
@[simp] theorem nPreEnq_wDequeue : nPreEnq .wDequeue = false := rfl
@[simp] theorem nPreEnq_wUnlock : nPreEnq .wUnlock = false := rfl
@[simp] theorem nPreEnq_wInc : nPreEnq .wInc = false := rfl
@[simp] theorem nPreEnq_wCall : nPreEnq .wCall = false := rfl
@[simp] theorem nPreEnq_wInTask : nPreEnq .wInTask = false := rfl
@[simp] theorem nPreEnq_wDec : nPreEnq .wDec = false := rfl
@[simp] theorem nPreEnq_wExitDec : nPreEnq .wExitDec = false := rfl
@[simp] theorem nPreEnq_wExitBcast : nPreEnq .wExitBcast = false := rfl
@[simp] theorem nPreEnq_wExitUnlock : nPreEnq .wExitUnlock = false := rfl
@[simp] theorem nPreEnq_wRet : nPreEnq .wRet = false := rfl
@[simp] theorem nPreEnq_wDone : nPreEnq .wDone = false := rfl
@[simp] theorem nPreEnq_sIdle : nPreEnq .sIdle = false := rfl
@[simp] theorem nPreEnq_sLock : nPreEnq .sLock = false := rfl
@[simp] theorem nPreEnq_sShutChk : nPreEnq .sShutChk = false := rfl
@[simp] theorem nPreEnq_sPermUnlock : nPreEnq .sPermUnlock = false := rfl
@[simp] theorem nPreEnq_sLazy0 : nPreEnq .sLazy0 = false := rfl
@[simp] theorem nPreEnq_sLazy1 : nPreEnq .sLazy1 = false := rfl
@[simp] theorem nPreEnq_sLazy2 : nPreEnq .sLazy2 = false := rfl
@[simp] theorem nPreEnq_sCreate : nPreEnq .sCreate = false := rfl
@[simp] theorem nPreEnq_sInsert : nPreEnq .sInsert = false := rfl
@[simp] theorem nPreEnq_sFailUnlock : nPreEnq .sFailUnlock = false := rfl
@[simp] theorem nPreEnq_sEnq : nPreEnq .sEnq = false := rfl
@[simp] theorem nPreEnq_sSignal : nPreEnq .sSignal = false := rfl
@[simp] theorem nPreEnq_sUnlock : nPreEnq .sUnlock = false := rfl
@[simp] theorem nPreEnq_sRetOk : nPreEnq .sRetOk = false := rfl
@[simp] theorem nPreEnq_sRetPerm : nPreEnq .sRetPerm = false := rfl
@[simp] theorem nPreEnq_sRetFail : nPreEnq .sRetFail = false := rfl
@[simp] theorem nPreEnq_nLock : nPreEnq .nLock = true := rfl
@[simp] theorem nPreEnq_nShutChk : nPreEnq .nShutChk = true := rfl
@[simp] theorem nPreEnq_nPermUnlock : nPreEnq .nPermUnlock = false := rfl
@[simp] theorem nPreEnq_nLazy0 : nPreEnq .nLazy0 = true := rfl
@[simp] theorem nPreEnq_nLazy1 : nPreEnq .nLazy1 = true := rfl
@[simp] theorem nPreEnq_nLazy2 : nPreEnq .nLazy2 = true := rfl
@[simp] theorem nPreEnq_nCreate : nPreEnq .nCreate = true := rfl
@[simp] theorem nPreEnq_nInsert : nPreEnq .nInsert = true := rfl
@[simp] theorem nPreEnq_nFailUnlock : nPreEnq .nFailUnlock = false := rfl
@[simp] theorem nPreEnq_nEnq : nPreEnq .nEnq = true := rfl
@[simp] theorem nPreEnq_nSignal : nPreEnq .nSignal = false := rfl
@[simp] theorem nPreEnq_nUnlock : nPreEnq .nUnlock = false := rfl
@[simp] theorem nPreEnq_nRetOk : nPreEnq .nRetOk = false := rfl
@[simp] theorem nPreEnq_nRetPerm : nPreEnq .nRetPerm = false := rfl
@[simp] theorem nPreEnq_nRetFail : nPreEnq .nRetFail = false := rfl
@[simp] theorem nPreEnq_mNewCreate : nPreEnq .mNewCreate = false := rfl
@[simp] theorem nPreEnq_mNewInsert : nPreEnq .mNewInsert = false := rfl
@[simp] theorem nPreEnq_mNewRet : nPreEnq .mNewRet = false := rfl
@[simp] theorem nPreEnq_mIdle : nPreEnq .mIdle = false := rfl
@[simp] theorem nPreEnq_fLock : nPreEnq .fLock = false := rfl
@[simp] theorem nPreEnq_fSetShut : nPreEnq .fSetShut = false := rfl
@[simp] theorem nPreEnq_fBcast : nPreEnq .fBcast = false := rfl
@[simp] theorem nPreEnq_fAliveChk : nPreEnq .fAliveChk = false := rfl
@[simp] theorem nPreEnq_fWait : nPreEnq .fWait = false := rfl
@[simp] theorem nPreEnq_fWaiting : nPreEnq .fWaiting = false := rfl
@[simp] theorem nPreEnq_fUnlock : nPreEnq .fUnlock = false := rfl
@[simp] theorem nPreEnq_fJoinInit : nPreEnq .fJoinInit = false := rfl
@[simp] theorem nPreEnq_fJoin : nPreEnq .fJoin = false := rfl
@[simp] theorem nPreEnq_fCondDestroy : nPreEnq .fCondDestroy = false := rfl
@[simp] theorem nPreEnq_fMutDestroy : nPreEnq .fMutDestroy = false := rfl
@[simp] theorem nPreEnq_fQueueFree : nPreEnq .fQueueFree = false := rfl
@[simp] theorem nPreEnq_fListFree : nPreEnq .fListFree = false := rfl
@[simp] theorem nPreEnq_fFreePool : nPreEnq .fFreePool = false := rfl
@[simp] theorem nPreEnq_fRet : nPreEnq .fRet = false := rfl
@[simp] theorem nPreEnq_mDone : nPreEnq .mDone = false := rfl

/-- a worker inside the m_thpool_add it called from its task -/
def nIn : Pc → Bool
  | .nLock | .nShutChk | .nPermUnlock | .nLazy0 | .nLazy1 | .nLazy2 | .nCreate | .nInsert | .nFailUnlock | .nEnq | .nSignal | .nUnlock | .nRetOk | .nRetPerm | .nRetFail => true
  | _ => false
@[simp] theorem nIn_none : nIn .none = false := rfl
@[simp] theorem nIn_wLock : nIn .wLock = false := rfl
@[simp] theorem nIn_wLoop : nIn .wLoop = false := rfl
@[simp] theorem nIn_wWait : nIn .wWait = false := rfl
@[simp] theorem nIn_wWaiting : nIn .wWaiting = false := rfl
@[simp] theorem nIn_wBreakChk : nIn .wBreakChk = false := rfl
@[simp] theorem nIn_wBreakLen : nIn .wBreakLen = false := rfl
@[simp] theorem nIn_wDequeue : nIn .wDequeue = false := rfl
@[simp] theorem nIn_wUnlock : nIn .wUnlock = false := rfl
@[simp] theorem nIn_wInc : nIn .wInc = false := rfl
@[simp] theorem nIn_wCall : nIn .wCall = false := rfl
@[simp] theorem nIn_wInTask : nIn .wInTask = false := rfl
@[simp] theorem nIn_wDec : nIn .wDec = false := rfl
@[simp] theorem nIn_wExitDec : nIn .wExitDec = false := rfl
@[simp] theorem nIn_wExitBcast : nIn .wExitBcast = false := rfl
@[simp] theorem nIn_wExitUnlock : nIn .wExitUnlock = false := rfl
@[simp] theorem nIn_wRet : nIn .wRet = false := rfl
@[simp] theorem nIn_wDone : nIn .wDone = false := rfl
@[simp] theorem nIn_sIdle : nIn .sIdle = false := rfl
@[simp] theorem nIn_sLock : nIn .sLock = false := rfl
@[simp] theorem nIn_sShutChk : nIn .sShutChk = false := rfl
@[simp] theorem nIn_sPermUnlock : nIn .sPermUnlock = false := rfl
@[simp] theorem nIn_sLazy0 : nIn .sLazy0 = false := rfl
@[simp] theorem nIn_sLazy1 : nIn .sLazy1 = false := rfl
@[simp] theorem nIn_sLazy2 : nIn .sLazy2 = false := rfl
@[simp] theorem nIn_sCreate : nIn .sCreate = false := rfl
@[simp] theorem nIn_sInsert : nIn .sInsert = false := rfl
@[simp] theorem nIn_sFailUnlock : nIn .sFailUnlock = false := rfl
@[simp] theorem nIn_sEnq : nIn .sEnq = false := rfl
@[simp] theorem nIn_sSignal : nIn .sSignal = false := rfl
@[simp] theorem nIn_sUnlock : nIn .sUnlock = false := rfl
@[simp] theorem nIn_sRetOk : nIn .sRetOk = false := rfl
@[simp] theorem nIn_sRetPerm : nIn .sRetPerm = false := rfl
@[simp] theorem nIn_sRetFail : nIn .sRetFail = false := rfl
@[simp] theorem nIn_nLock : nIn .nLock = true := rfl
@[simp] theorem nIn_nShutChk : nIn .nShutChk = true := rfl
@[simp] theorem nIn_nPermUnlock : nIn .nPermUnlock = true := rfl
@[simp] theorem nIn_nLazy0 : nIn .nLazy0 = true := rfl
@[simp] theorem nIn_nLazy1 : nIn .nLazy1 = true := rfl
@[simp] theorem nIn_nLazy2 : nIn .nLazy2 = true := rfl
@[simp] theorem nIn_nCreate : nIn .nCreate = true := rfl
@[simp] theorem nIn_nInsert : nIn .nInsert = true := rfl
@[simp] theorem nIn_nFailUnlock : nIn .nFailUnlock = true := rfl
@[simp] theorem nIn_nEnq : nIn .nEnq = true := rfl
@[simp] theorem nIn_nSignal : nIn .nSignal = true := rfl
@[simp] theorem nIn_nUnlock : nIn .nUnlock = true := rfl
@[simp] theorem nIn_nRetOk : nIn .nRetOk = true := rfl
@[simp] theorem nIn_nRetPerm : nIn .nRetPerm = true := rfl
@[simp] theorem nIn_nRetFail : nIn .nRetFail = true := rfl
@[simp] theorem nIn_mNewCreate : nIn .mNewCreate = false := rfl
@[simp] theorem nIn_mNewInsert : nIn .mNewInsert = false := rfl
@[simp] theorem nIn_mNewRet : nIn .mNewRet = false := rfl
@[simp] theorem nIn_mIdle : nIn .mIdle = false := rfl
@[simp] theorem nIn_fLock : nIn .fLock = false := rfl
@[simp] theorem nIn_fSetShut : nIn .fSetShut = false := rfl
@[simp] theorem nIn_fBcast : nIn .fBcast = false := rfl
@[simp] theorem nIn_fAliveChk : nIn .fAliveChk = false := rfl
@[simp] theorem nIn_fWait : nIn .fWait = false := rfl
@[simp] theorem nIn_fWaiting : nIn .fWaiting = false := rfl
@[simp] theorem nIn_fUnlock : nIn .fUnlock = false := rfl
@[simp] theorem nIn_fJoinInit : nIn .fJoinInit = false := rfl
@[simp] theorem nIn_fJoin : nIn .fJoin = false := rfl
@[simp] theorem nIn_fCondDestroy : nIn .fCondDestroy = false := rfl
@[simp] theorem nIn_fMutDestroy : nIn .fMutDestroy = false := rfl
@[simp] theorem nIn_fQueueFree : nIn .fQueueFree = false := rfl
@[simp] theorem nIn_fListFree : nIn .fListFree = false := rfl
@[simp] theorem nIn_fFreePool : nIn .fFreePool = false := rfl
@[simp] theorem nIn_fRet : nIn .fRet = false := rfl
@[simp] theorem nIn_mDone : nIn .mDone = false := rfl

/-- a worker between the start and the end of a task (including the m_thpool_add calls the task makes) -/
def inTask : Pc → Bool
  | .wInTask | .nLock | .nShutChk | .nPermUnlock | .nLazy0 | .nLazy1 | .nLazy2 | .nCreate | .nInsert | .nFailUnlock | .nEnq | .nSignal | .nUnlock | .nRetOk | .nRetPerm | .nRetFail => true
  | _ => false
@[simp] theorem inTask_none : inTask .none = false := rfl
@[simp] theorem inTask_wLock : inTask .wLock = false := rfl
@[simp] theorem inTask_wLoop : inTask .wLoop = false := rfl
@[simp] theorem inTask_wWait : inTask .wWait = false := rfl
@[simp] theorem inTask_wWaiting : inTask .wWaiting = false := rfl
@[simp] theorem inTask_wBreakChk : inTask .wBreakChk = false := rfl
@[simp] theorem inTask_wBreakLen : inTask .wBreakLen = false := rfl
@[simp] theorem inTask_wDequeue : inTask .wDequeue = false := rfl
@[simp] theorem inTask_wUnlock : inTask .wUnlock = false := rfl
@[simp] theorem inTask_wInc : inTask .wInc = false := rfl
@[simp] theorem inTask_wCall : inTask .wCall = false := rfl
@[simp] theorem inTask_wInTask : inTask .wInTask = true := rfl
@[simp] theorem inTask_wDec : inTask .wDec = false := rfl
@[simp] theorem inTask_wExitDec : inTask .wExitDec = false := rfl
@[simp] theorem inTask_wExitBcast : inTask .wExitBcast = false := rfl
@[simp] theorem inTask_wExitUnlock : inTask .wExitUnlock = false := rfl
@[simp] theorem inTask_wRet : inTask .wRet = false := rfl
@[simp] theorem inTask_wDone : inTask .wDone = false := rfl
@[simp] theorem inTask_sIdle : inTask .sIdle = false := rfl
@[simp] theorem inTask_sLock : inTask .sLock = false := rfl
@[simp] theorem inTask_sShutChk : inTask .sShutChk = false := rfl
@[simp] theorem inTask_sPermUnlock : inTask .sPermUnlock = false := rfl
@[simp] theorem inTask_sLazy0 : inTask .sLazy0 = false := rfl
@[simp] theorem inTask_sLazy1 : inTask .sLazy1 = false := rfl
@[simp] theorem inTask_sLazy2 : inTask .sLazy2 = false := rfl
@[simp] theorem inTask_sCreate : inTask .sCreate = false := rfl
@[simp] theorem inTask_sInsert : inTask .sInsert = false := rfl
@[simp] theorem inTask_sFailUnlock : inTask .sFailUnlock = false := rfl
@[simp] theorem inTask_sEnq : inTask .sEnq = false := rfl
@[simp] theorem inTask_sSignal : inTask .sSignal = false := rfl
@[simp] theorem inTask_sUnlock : inTask .sUnlock = false := rfl
@[simp] theorem inTask_sRetOk : inTask .sRetOk = false := rfl
@[simp] theorem inTask_sRetPerm : inTask .sRetPerm = false := rfl
@[simp] theorem inTask_sRetFail : inTask .sRetFail = false := rfl
@[simp] theorem inTask_nLock : inTask .nLock = true := rfl
@[simp] theorem inTask_nShutChk : inTask .nShutChk = true := rfl
@[simp] theorem inTask_nPermUnlock : inTask .nPermUnlock = true := rfl
@[simp] theorem inTask_nLazy0 : inTask .nLazy0 = true := rfl
@[simp] theorem inTask_nLazy1 : inTask .nLazy1 = true := rfl
@[simp] theorem inTask_nLazy2 : inTask .nLazy2 = true := rfl
@[simp] theorem inTask_nCreate : inTask .nCreate = true := rfl
@[simp] theorem inTask_nInsert : inTask .nInsert = true := rfl
@[simp] theorem inTask_nFailUnlock : inTask .nFailUnlock = true := rfl
@[simp] theorem inTask_nEnq : inTask .nEnq = true := rfl
@[simp] theorem inTask_nSignal : inTask .nSignal = true := rfl
@[simp] theorem inTask_nUnlock : inTask .nUnlock = true := rfl
@[simp] theorem inTask_nRetOk : inTask .nRetOk = true := rfl
@[simp] theorem inTask_nRetPerm : inTask .nRetPerm = true := rfl
@[simp] theorem inTask_nRetFail : inTask .nRetFail = true := rfl
@[simp] theorem inTask_mNewCreate : inTask .mNewCreate = false := rfl
@[simp] theorem inTask_mNewInsert : inTask .mNewInsert = false := rfl
@[simp] theorem inTask_mNewRet : inTask .mNewRet = false := rfl
@[simp] theorem inTask_mIdle : inTask .mIdle = false := rfl
@[simp] theorem inTask_fLock : inTask .fLock = false := rfl
@[simp] theorem inTask_fSetShut : inTask .fSetShut = false := rfl
@[simp] theorem inTask_fBcast : inTask .fBcast = false := rfl
@[simp] theorem inTask_fAliveChk : inTask .fAliveChk = false := rfl
@[simp] theorem inTask_fWait : inTask .fWait = false := rfl
@[simp] theorem inTask_fWaiting : inTask .fWaiting = false := rfl
@[simp] theorem inTask_fUnlock : inTask .fUnlock = false := rfl
@[simp] theorem inTask_fJoinInit : inTask .fJoinInit = false := rfl
@[simp] theorem inTask_fJoin : inTask .fJoin = false := rfl
@[simp] theorem inTask_fCondDestroy : inTask .fCondDestroy = false := rfl
@[simp] theorem inTask_fMutDestroy : inTask .fMutDestroy = false := rfl
@[simp] theorem inTask_fQueueFree : inTask .fQueueFree = false := rfl
@[simp] theorem inTask_fListFree : inTask .fListFree = false := rfl
@[simp] theorem inTask_fFreePool : inTask .fFreePool = false := rfl
@[simp] theorem inTask_fRet : inTask .fRet = false := rfl
@[simp] theorem inTask_mDone : inTask .mDone = false := rfl

/-- inside m_thpool_add, past the shutdown check, still holding the lock: the pool is not shutting down -/
def pastChk : Pc → Bool
  | .sLazy0 | .sLazy1 | .sLazy2 | .sCreate | .sInsert | .sFailUnlock | .sEnq | .sSignal | .sUnlock | .nLazy0 | .nLazy1 | .nLazy2 | .nCreate | .nInsert | .nFailUnlock | .nEnq | .nSignal | .nUnlock => true
  | _ => false
@[simp] theorem pastChk_none : pastChk .none = false := rfl
@[simp] theorem pastChk_wLock : pastChk .wLock = false := rfl
@[simp] theorem pastChk_wLoop : pastChk .wLoop = false := rfl
@[simp] theorem pastChk_wWait : pastChk .wWait = false := rfl
@[simp] theorem pastChk_wWaiting : pastChk .wWaiting = false := rfl
@[simp] theorem pastChk_wBreakChk : pastChk .wBreakChk = false := rfl
@[simp] theorem pastChk_wBreakLen : pastChk .wBreakLen = false := rfl
@[simp] theorem pastChk_wDequeue : pastChk .wDequeue = false := rfl
@[simp] theorem pastChk_wUnlock : pastChk .wUnlock = false := rfl
@[simp] theorem pastChk_wInc : pastChk .wInc = false := rfl
@[simp] theorem pastChk_wCall : pastChk .wCall = false := rfl
@[simp] theorem pastChk_wInTask : pastChk .wInTask = false := rfl
@[simp] theorem pastChk_wDec : pastChk .wDec = false := rfl
@[simp] theorem pastChk_wExitDec : pastChk .wExitDec = false := rfl
@[simp] theorem pastChk_wExitBcast : pastChk .wExitBcast = false := rfl
@[simp] theorem pastChk_wExitUnlock : pastChk .wExitUnlock = false := rfl
@[simp] theorem pastChk_wRet : pastChk .wRet = false := rfl
@[simp] theorem pastChk_wDone : pastChk .wDone = false := rfl
@[simp] theorem pastChk_sIdle : pastChk .sIdle = false := rfl
@[simp] theorem pastChk_sLock : pastChk .sLock = false := rfl
@[simp] theorem pastChk_sShutChk : pastChk .sShutChk = false := rfl
@[simp] theorem pastChk_sPermUnlock : pastChk .sPermUnlock = false := rfl
@[simp] theorem pastChk_sLazy0 : pastChk .sLazy0 = true := rfl
@[simp] theorem pastChk_sLazy1 : pastChk .sLazy1 = true := rfl
@[simp] theorem pastChk_sLazy2 : pastChk .sLazy2 = true := rfl
@[simp] theorem pastChk_sCreate : pastChk .sCreate = true := rfl
@[simp] theorem pastChk_sInsert : pastChk .sInsert = true := rfl
@[simp] theorem pastChk_sFailUnlock : pastChk .sFailUnlock = true := rfl
@[simp] theorem pastChk_sEnq : pastChk .sEnq = true := rfl
@[simp] theorem pastChk_sSignal : pastChk .sSignal = true := rfl
@[simp] theorem pastChk_sUnlock : pastChk .sUnlock = true := rfl
@[simp] theorem pastChk_sRetOk : pastChk .sRetOk = false := rfl
@[simp] theorem pastChk_sRetPerm : pastChk .sRetPerm = false := rfl
@[simp] theorem pastChk_sRetFail : pastChk .sRetFail = false := rfl
@[simp] theorem pastChk_nLock : pastChk .nLock = false := rfl
@[simp] theorem pastChk_nShutChk : pastChk .nShutChk = false := rfl
@[simp] theorem pastChk_nPermUnlock : pastChk .nPermUnlock = false := rfl
@[simp] theorem pastChk_nLazy0 : pastChk .nLazy0 = true := rfl
@[simp] theorem pastChk_nLazy1 : pastChk .nLazy1 = true := rfl
@[simp] theorem pastChk_nLazy2 : pastChk .nLazy2 = true := rfl
@[simp] theorem pastChk_nCreate : pastChk .nCreate = true := rfl
@[simp] theorem pastChk_nInsert : pastChk .nInsert = true := rfl
@[simp] theorem pastChk_nFailUnlock : pastChk .nFailUnlock = true := rfl
@[simp] theorem pastChk_nEnq : pastChk .nEnq = true := rfl
@[simp] theorem pastChk_nSignal : pastChk .nSignal = true := rfl
@[simp] theorem pastChk_nUnlock : pastChk .nUnlock = true := rfl
@[simp] theorem pastChk_nRetOk : pastChk .nRetOk = false := rfl
@[simp] theorem pastChk_nRetPerm : pastChk .nRetPerm = false := rfl
@[simp] theorem pastChk_nRetFail : pastChk .nRetFail = false := rfl
@[simp] theorem pastChk_mNewCreate : pastChk .mNewCreate = false := rfl
@[simp] theorem pastChk_mNewInsert : pastChk .mNewInsert = false := rfl
@[simp] theorem pastChk_mNewRet : pastChk .mNewRet = false := rfl
@[simp] theorem pastChk_mIdle : pastChk .mIdle = false := rfl
@[simp] theorem pastChk_fLock : pastChk .fLock = false := rfl
@[simp] theorem pastChk_fSetShut : pastChk .fSetShut = false := rfl
@[simp] theorem pastChk_fBcast : pastChk .fBcast = false := rfl
@[simp] theorem pastChk_fAliveChk : pastChk .fAliveChk = false := rfl
@[simp] theorem pastChk_fWait : pastChk .fWait = false := rfl
@[simp] theorem pastChk_fWaiting : pastChk .fWaiting = false := rfl
@[simp] theorem pastChk_fUnlock : pastChk .fUnlock = false := rfl
@[simp] theorem pastChk_fJoinInit : pastChk .fJoinInit = false := rfl
@[simp] theorem pastChk_fJoin : pastChk .fJoin = false := rfl
@[simp] theorem pastChk_fCondDestroy : pastChk .fCondDestroy = false := rfl
@[simp] theorem pastChk_fMutDestroy : pastChk .fMutDestroy = false := rfl
@[simp] theorem pastChk_fQueueFree : pastChk .fQueueFree = false := rfl
@[simp] theorem pastChk_fListFree : pastChk .fListFree = false := rfl
@[simp] theorem pastChk_fFreePool : pastChk .fFreePool = false := rfl
@[simp] theorem pastChk_fRet : pastChk .fRet = false := rfl
@[simp] theorem pastChk_mDone : pastChk .mDone = false := rfl

/-- a dequeued task that has not been started yet -/
def held : Pc → Bool
  | .wUnlock | .wInc | .wCall => true
  | _ => false
@[simp] theorem held_none : held .none = false := rfl
@[simp] theorem held_wLock : held .wLock = false := rfl
@[simp] theorem held_wLoop : held .wLoop = false := rfl
@[simp] theorem held_wWait : held .wWait = false := rfl
@[simp] theorem held_wWaiting : held .wWaiting = false := rfl
@[simp] theorem held_wBreakChk : held .wBreakChk = false := rfl
@[simp] theorem held_wBreakLen : held .wBreakLen = false := rfl
@[simp] theorem held_wDequeue : held .wDequeue = false := rfl
@[simp] theorem held_wUnlock : held .wUnlock = true := rfl
@[simp] theorem held_wInc : held .wInc = true := rfl
@[simp] theorem held_wCall : held .wCall = true := rfl
@[simp] theorem held_wInTask : held .wInTask = false := rfl
@[simp] theorem held_wDec : held .wDec = false := rfl
@[simp] theorem held_wExitDec : held .wExitDec = false := rfl
@[simp] theorem held_wExitBcast : held .wExitBcast = false := rfl
@[simp] theorem held_wExitUnlock : held .wExitUnlock = false := rfl
@[simp] theorem held_wRet : held .wRet = false := rfl
@[simp] theorem held_wDone : held .wDone = false := rfl
@[simp] theorem held_sIdle : held .sIdle = false := rfl
@[simp] theorem held_sLock : held .sLock = false := rfl
@[simp] theorem held_sShutChk : held .sShutChk = false := rfl
@[simp] theorem held_sPermUnlock : held .sPermUnlock = false := rfl
@[simp] theorem held_sLazy0 : held .sLazy0 = false := rfl
@[simp] theorem held_sLazy1 : held .sLazy1 = false := rfl
@[simp] theorem held_sLazy2 : held .sLazy2 = false := rfl
@[simp] theorem held_sCreate : held .sCreate = false := rfl
@[simp] theorem held_sInsert : held .sInsert = false := rfl
@[simp] theorem held_sFailUnlock : held .sFailUnlock = false := rfl
@[simp] theorem held_sEnq : held .sEnq = false := rfl
@[simp] theorem held_sSignal : held .sSignal = false := rfl
@[simp] theorem held_sUnlock : held .sUnlock = false := rfl
@[simp] theorem held_sRetOk : held .sRetOk = false := rfl
@[simp] theorem held_sRetPerm : held .sRetPerm = false := rfl
@[simp] theorem held_sRetFail : held .sRetFail = false := rfl
@[simp] theorem held_nLock : held .nLock = false := rfl
@[simp] theorem held_nShutChk : held .nShutChk = false := rfl
@[simp] theorem held_nPermUnlock : held .nPermUnlock = false := rfl
@[simp] theorem held_nLazy0 : held .nLazy0 = false := rfl
@[simp] theorem held_nLazy1 : held .nLazy1 = false := rfl
@[simp] theorem held_nLazy2 : held .nLazy2 = false := rfl
@[simp] theorem held_nCreate : held .nCreate = false := rfl
@[simp] theorem held_nInsert : held .nInsert = false := rfl
@[simp] theorem held_nFailUnlock : held .nFailUnlock = false := rfl
@[simp] theorem held_nEnq : held .nEnq = false := rfl
@[simp] theorem held_nSignal : held .nSignal = false := rfl
@[simp] theorem held_nUnlock : held .nUnlock = false := rfl
@[simp] theorem held_nRetOk : held .nRetOk = false := rfl
@[simp] theorem held_nRetPerm : held .nRetPerm = false := rfl
@[simp] theorem held_nRetFail : held .nRetFail = false := rfl
@[simp] theorem held_mNewCreate : held .mNewCreate = false := rfl
@[simp] theorem held_mNewInsert : held .mNewInsert = false := rfl
@[simp] theorem held_mNewRet : held .mNewRet = false := rfl
@[simp] theorem held_mIdle : held .mIdle = false := rfl
@[simp] theorem held_fLock : held .fLock = false := rfl
@[simp] theorem held_fSetShut : held .fSetShut = false := rfl
@[simp] theorem held_fBcast : held .fBcast = false := rfl
@[simp] theorem held_fAliveChk : held .fAliveChk = false := rfl
@[simp] theorem held_fWait : held .fWait = false := rfl
@[simp] theorem held_fWaiting : held .fWaiting = false := rfl
@[simp] theorem held_fUnlock : held .fUnlock = false := rfl
@[simp] theorem held_fJoinInit : held .fJoinInit = false := rfl
@[simp] theorem held_fJoin : held .fJoin = false := rfl
@[simp] theorem held_fCondDestroy : held .fCondDestroy = false := rfl
@[simp] theorem held_fMutDestroy : held .fMutDestroy = false := rfl
@[simp] theorem held_fQueueFree : held .fQueueFree = false := rfl
@[simp] theorem held_fListFree : held .fListFree = false := rfl
@[simp] theorem held_fFreePool : held .fFreePool = false := rfl
@[simp] theorem held_fRet : held .fRet = false := rfl
@[simp] theorem held_mDone : held .mDone = false := rfl

/-- left the worker loop -/
def exiting : Pc → Bool
  | .wExitDec | .wExitBcast | .wExitUnlock | .wRet | .wDone => true
  | _ => false
@[simp] theorem exiting_none : exiting .none = false := rfl
@[simp] theorem exiting_wLock : exiting .wLock = false := rfl
@[simp] theorem exiting_wLoop : exiting .wLoop = false := rfl
@[simp] theorem exiting_wWait : exiting .wWait = false := rfl
@[simp] theorem exiting_wWaiting : exiting .wWaiting = false := rfl
@[simp] theorem exiting_wBreakChk : exiting .wBreakChk = false := rfl
@[simp] theorem exiting_wBreakLen : exiting .wBreakLen = false := rfl
@[simp] theorem exiting_wDequeue : exiting .wDequeue = false := rfl
@[simp] theorem exiting_wUnlock : exiting .wUnlock = false := rfl
@[simp] theorem exiting_wInc : exiting .wInc = false := rfl
@[simp] theorem exiting_wCall : exiting .wCall = false := rfl
@[simp] theorem exiting_wInTask : exiting .wInTask = false := rfl
@[simp] theorem exiting_wDec : exiting .wDec = false := rfl
@[simp] theorem exiting_wExitDec : exiting .wExitDec = true := rfl
@[simp] theorem exiting_wExitBcast : exiting .wExitBcast = true := rfl
@[simp] theorem exiting_wExitUnlock : exiting .wExitUnlock = true := rfl
@[simp] theorem exiting_wRet : exiting .wRet = true := rfl
@[simp] theorem exiting_wDone : exiting .wDone = true := rfl
@[simp] theorem exiting_sIdle : exiting .sIdle = false := rfl
@[simp] theorem exiting_sLock : exiting .sLock = false := rfl
@[simp] theorem exiting_sShutChk : exiting .sShutChk = false := rfl
@[simp] theorem exiting_sPermUnlock : exiting .sPermUnlock = false := rfl
@[simp] theorem exiting_sLazy0 : exiting .sLazy0 = false := rfl
@[simp] theorem exiting_sLazy1 : exiting .sLazy1 = false := rfl
@[simp] theorem exiting_sLazy2 : exiting .sLazy2 = false := rfl
@[simp] theorem exiting_sCreate : exiting .sCreate = false := rfl
@[simp] theorem exiting_sInsert : exiting .sInsert = false := rfl
@[simp] theorem exiting_sFailUnlock : exiting .sFailUnlock = false := rfl
@[simp] theorem exiting_sEnq : exiting .sEnq = false := rfl
@[simp] theorem exiting_sSignal : exiting .sSignal = false := rfl
@[simp] theorem exiting_sUnlock : exiting .sUnlock = false := rfl
@[simp] theorem exiting_sRetOk : exiting .sRetOk = false := rfl
@[simp] theorem exiting_sRetPerm : exiting .sRetPerm = false := rfl
@[simp] theorem exiting_sRetFail : exiting .sRetFail = false := rfl
@[simp] theorem exiting_nLock : exiting .nLock = false := rfl
@[simp] theorem exiting_nShutChk : exiting .nShutChk = false := rfl
@[simp] theorem exiting_nPermUnlock : exiting .nPermUnlock = false := rfl
@[simp] theorem exiting_nLazy0 : exiting .nLazy0 = false := rfl
@[simp] theorem exiting_nLazy1 : exiting .nLazy1 = false := rfl
@[simp] theorem exiting_nLazy2 : exiting .nLazy2 = false := rfl
@[simp] theorem exiting_nCreate : exiting .nCreate = false := rfl
@[simp] theorem exiting_nInsert : exiting .nInsert = false := rfl
@[simp] theorem exiting_nFailUnlock : exiting .nFailUnlock = false := rfl
@[simp] theorem exiting_nEnq : exiting .nEnq = false := rfl
@[simp] theorem exiting_nSignal : exiting .nSignal = false := rfl
@[simp] theorem exiting_nUnlock : exiting .nUnlock = false := rfl
@[simp] theorem exiting_nRetOk : exiting .nRetOk = false := rfl
@[simp] theorem exiting_nRetPerm : exiting .nRetPerm = false := rfl
@[simp] theorem exiting_nRetFail : exiting .nRetFail = false := rfl
@[simp] theorem exiting_mNewCreate : exiting .mNewCreate = false := rfl
@[simp] theorem exiting_mNewInsert : exiting .mNewInsert = false := rfl
@[simp] theorem exiting_mNewRet : exiting .mNewRet = false := rfl
@[simp] theorem exiting_mIdle : exiting .mIdle = false := rfl
@[simp] theorem exiting_fLock : exiting .fLock = false := rfl
@[simp] theorem exiting_fSetShut : exiting .fSetShut = false := rfl
@[simp] theorem exiting_fBcast : exiting .fBcast = false := rfl
@[simp] theorem exiting_fAliveChk : exiting .fAliveChk = false := rfl
@[simp] theorem exiting_fWait : exiting .fWait = false := rfl
@[simp] theorem exiting_fWaiting : exiting .fWaiting = false := rfl
@[simp] theorem exiting_fUnlock : exiting .fUnlock = false := rfl
@[simp] theorem exiting_fJoinInit : exiting .fJoinInit = false := rfl
@[simp] theorem exiting_fJoin : exiting .fJoin = false := rfl
@[simp] theorem exiting_fCondDestroy : exiting .fCondDestroy = false := rfl
@[simp] theorem exiting_fMutDestroy : exiting .fMutDestroy = false := rfl
@[simp] theorem exiting_fQueueFree : exiting .fQueueFree = false := rfl
@[simp] theorem exiting_fListFree : exiting .fListFree = false := rfl
@[simp] theorem exiting_fFreePool : exiting .fFreePool = false := rfl
@[simp] theorem exiting_fRet : exiting .fRet = false := rfl
@[simp] theorem exiting_mDone : exiting .mDone = false := rfl

/-- a worker that has not yet executed `pool->alive--` -/
def beforeDec : Pc → Bool
  | .wLock | .wLoop | .wWait | .wWaiting | .wBreakChk | .wBreakLen | .wDequeue | .wUnlock | .wInc | .wCall | .wInTask | .wDec | .wExitDec | .nLock | .nShutChk | .nPermUnlock | .nLazy0 | .nLazy1 | .nLazy2 | .nCreate | .nInsert | .nFailUnlock | .nEnq | .nSignal | .nUnlock | .nRetOk | .nRetPerm | .nRetFail => true
  | _ => false
@[simp] theorem beforeDec_none : beforeDec .none = false := rfl
@[simp] theorem beforeDec_wLock : beforeDec .wLock = true := rfl
@[simp] theorem beforeDec_wLoop : beforeDec .wLoop = true := rfl
@[simp] theorem beforeDec_wWait : beforeDec .wWait = true := rfl
@[simp] theorem beforeDec_wWaiting : beforeDec .wWaiting = true := rfl
@[simp] theorem beforeDec_wBreakChk : beforeDec .wBreakChk = true := rfl
@[simp] theorem beforeDec_wBreakLen : beforeDec .wBreakLen = true := rfl
@[simp] theorem beforeDec_wDequeue : beforeDec .wDequeue = true := rfl
@[simp] theorem beforeDec_wUnlock : beforeDec .wUnlock = true := rfl
@[simp] theorem beforeDec_wInc : beforeDec .wInc = true := rfl
@[simp] theorem beforeDec_wCall : beforeDec .wCall = true := rfl
@[simp] theorem beforeDec_wInTask : beforeDec .wInTask = true := rfl
@[simp] theorem beforeDec_wDec : beforeDec .wDec = true := rfl
@[simp] theorem beforeDec_wExitDec : beforeDec .wExitDec = true := rfl
@[simp] theorem beforeDec_wExitBcast : beforeDec .wExitBcast = false := rfl
@[simp] theorem beforeDec_wExitUnlock : beforeDec .wExitUnlock = false := rfl
@[simp] theorem beforeDec_wRet : beforeDec .wRet = false := rfl
@[simp] theorem beforeDec_wDone : beforeDec .wDone = false := rfl
@[simp] theorem beforeDec_sIdle : beforeDec .sIdle = false := rfl
@[simp] theorem beforeDec_sLock : beforeDec .sLock = false := rfl
@[simp] theorem beforeDec_sShutChk : beforeDec .sShutChk = false := rfl
@[simp] theorem beforeDec_sPermUnlock : beforeDec .sPermUnlock = false := rfl
@[simp] theorem beforeDec_sLazy0 : beforeDec .sLazy0 = false := rfl
@[simp] theorem beforeDec_sLazy1 : beforeDec .sLazy1 = false := rfl
@[simp] theorem beforeDec_sLazy2 : beforeDec .sLazy2 = false := rfl
@[simp] theorem beforeDec_sCreate : beforeDec .sCreate = false := rfl
@[simp] theorem beforeDec_sInsert : beforeDec .sInsert = false := rfl
@[simp] theorem beforeDec_sFailUnlock : beforeDec .sFailUnlock = false := rfl
@[simp] theorem beforeDec_sEnq : beforeDec .sEnq = false := rfl
@[simp] theorem beforeDec_sSignal : beforeDec .sSignal = false := rfl
@[simp] theorem beforeDec_sUnlock : beforeDec .sUnlock = false := rfl
@[simp] theorem beforeDec_sRetOk : beforeDec .sRetOk = false := rfl
@[simp] theorem beforeDec_sRetPerm : beforeDec .sRetPerm = false := rfl
@[simp] theorem beforeDec_sRetFail : beforeDec .sRetFail = false := rfl
@[simp] theorem beforeDec_nLock : beforeDec .nLock = true := rfl
@[simp] theorem beforeDec_nShutChk : beforeDec .nShutChk = true := rfl
@[simp] theorem beforeDec_nPermUnlock : beforeDec .nPermUnlock = true := rfl
@[simp] theorem beforeDec_nLazy0 : beforeDec .nLazy0 = true := rfl
@[simp] theorem beforeDec_nLazy1 : beforeDec .nLazy1 = true := rfl
@[simp] theorem beforeDec_nLazy2 : beforeDec .nLazy2 = true := rfl
@[simp] theorem beforeDec_nCreate : beforeDec .nCreate = true := rfl
@[simp] theorem beforeDec_nInsert : beforeDec .nInsert = true := rfl
@[simp] theorem beforeDec_nFailUnlock : beforeDec .nFailUnlock = true := rfl
@[simp] theorem beforeDec_nEnq : beforeDec .nEnq = true := rfl
@[simp] theorem beforeDec_nSignal : beforeDec .nSignal = true := rfl
@[simp] theorem beforeDec_nUnlock : beforeDec .nUnlock = true := rfl
@[simp] theorem beforeDec_nRetOk : beforeDec .nRetOk = true := rfl
@[simp] theorem beforeDec_nRetPerm : beforeDec .nRetPerm = true := rfl
@[simp] theorem beforeDec_nRetFail : beforeDec .nRetFail = true := rfl
@[simp] theorem beforeDec_mNewCreate : beforeDec .mNewCreate = false := rfl
@[simp] theorem beforeDec_mNewInsert : beforeDec .mNewInsert = false := rfl
@[simp] theorem beforeDec_mNewRet : beforeDec .mNewRet = false := rfl
@[simp] theorem beforeDec_mIdle : beforeDec .mIdle = false := rfl
@[simp] theorem beforeDec_fLock : beforeDec .fLock = false := rfl
@[simp] theorem beforeDec_fSetShut : beforeDec .fSetShut = false := rfl
@[simp] theorem beforeDec_fBcast : beforeDec .fBcast = false := rfl
@[simp] theorem beforeDec_fAliveChk : beforeDec .fAliveChk = false := rfl
@[simp] theorem beforeDec_fWait : beforeDec .fWait = false := rfl
@[simp] theorem beforeDec_fWaiting : beforeDec .fWaiting = false := rfl
@[simp] theorem beforeDec_fUnlock : beforeDec .fUnlock = false := rfl
@[simp] theorem beforeDec_fJoinInit : beforeDec .fJoinInit = false := rfl
@[simp] theorem beforeDec_fJoin : beforeDec .fJoin = false := rfl
@[simp] theorem beforeDec_fCondDestroy : beforeDec .fCondDestroy = false := rfl
@[simp] theorem beforeDec_fMutDestroy : beforeDec .fMutDestroy = false := rfl
@[simp] theorem beforeDec_fQueueFree : beforeDec .fQueueFree = false := rfl
@[simp] theorem beforeDec_fListFree : beforeDec .fListFree = false := rfl
@[simp] theorem beforeDec_fFreePool : beforeDec .fFreePool = false := rfl
@[simp] theorem beforeDec_fRet : beforeDec .fRet = false := rfl
@[simp] theorem beforeDec_mDone : beforeDec .mDone = false := rfl

/-- a worker after its last access to the pool -/
def gone : Pc → Bool
  | .wRet | .wDone => true
  | _ => false
@[simp] theorem gone_none : gone .none = false := rfl
@[simp] theorem gone_wLock : gone .wLock = false := rfl
@[simp] theorem gone_wLoop : gone .wLoop = false := rfl
@[simp] theorem gone_wWait : gone .wWait = false := rfl
@[simp] theorem gone_wWaiting : gone .wWaiting = false := rfl
@[simp] theorem gone_wBreakChk : gone .wBreakChk = false := rfl
@[simp] theorem gone_wBreakLen : gone .wBreakLen = false := rfl
@[simp] theorem gone_wDequeue : gone .wDequeue = false := rfl
@[simp] theorem gone_wUnlock : gone .wUnlock = false := rfl
@[simp] theorem gone_wInc : gone .wInc = false := rfl
@[simp] theorem gone_wCall : gone .wCall = false := rfl
@[simp] theorem gone_wInTask : gone .wInTask = false := rfl
@[simp] theorem gone_wDec : gone .wDec = false := rfl
@[simp] theorem gone_wExitDec : gone .wExitDec = false := rfl
@[simp] theorem gone_wExitBcast : gone .wExitBcast = false := rfl
@[simp] theorem gone_wExitUnlock : gone .wExitUnlock = false := rfl
@[simp] theorem gone_wRet : gone .wRet = true := rfl
@[simp] theorem gone_wDone : gone .wDone = true := rfl
@[simp] theorem gone_sIdle : gone .sIdle = false := rfl
@[simp] theorem gone_sLock : gone .sLock = false := rfl
@[simp] theorem gone_sShutChk : gone .sShutChk = false := rfl
@[simp] theorem gone_sPermUnlock : gone .sPermUnlock = false := rfl
@[simp] theorem gone_sLazy0 : gone .sLazy0 = false := rfl
@[simp] theorem gone_sLazy1 : gone .sLazy1 = false := rfl
@[simp] theorem gone_sLazy2 : gone .sLazy2 = false := rfl
@[simp] theorem gone_sCreate : gone .sCreate = false := rfl
@[simp] theorem gone_sInsert : gone .sInsert = false := rfl
@[simp] theorem gone_sFailUnlock : gone .sFailUnlock = false := rfl
@[simp] theorem gone_sEnq : gone .sEnq = false := rfl
@[simp] theorem gone_sSignal : gone .sSignal = false := rfl
@[simp] theorem gone_sUnlock : gone .sUnlock = false := rfl
@[simp] theorem gone_sRetOk : gone .sRetOk = false := rfl
@[simp] theorem gone_sRetPerm : gone .sRetPerm = false := rfl
@[simp] theorem gone_sRetFail : gone .sRetFail = false := rfl
@[simp] theorem gone_nLock : gone .nLock = false := rfl
@[simp] theorem gone_nShutChk : gone .nShutChk = false := rfl
@[simp] theorem gone_nPermUnlock : gone .nPermUnlock = false := rfl
@[simp] theorem gone_nLazy0 : gone .nLazy0 = false := rfl
@[simp] theorem gone_nLazy1 : gone .nLazy1 = false := rfl
@[simp] theorem gone_nLazy2 : gone .nLazy2 = false := rfl
@[simp] theorem gone_nCreate : gone .nCreate = false := rfl
@[simp] theorem gone_nInsert : gone .nInsert = false := rfl
@[simp] theorem gone_nFailUnlock : gone .nFailUnlock = false := rfl
@[simp] theorem gone_nEnq : gone .nEnq = false := rfl
@[simp] theorem gone_nSignal : gone .nSignal = false := rfl
@[simp] theorem gone_nUnlock : gone .nUnlock = false := rfl
@[simp] theorem gone_nRetOk : gone .nRetOk = false := rfl
@[simp] theorem gone_nRetPerm : gone .nRetPerm = false := rfl
@[simp] theorem gone_nRetFail : gone .nRetFail = false := rfl
@[simp] theorem gone_mNewCreate : gone .mNewCreate = false := rfl
@[simp] theorem gone_mNewInsert : gone .mNewInsert = false := rfl
@[simp] theorem gone_mNewRet : gone .mNewRet = false := rfl
@[simp] theorem gone_mIdle : gone .mIdle = false := rfl
@[simp] theorem gone_fLock : gone .fLock = false := rfl
@[simp] theorem gone_fSetShut : gone .fSetShut = false := rfl
@[simp] theorem gone_fBcast : gone .fBcast = false := rfl
@[simp] theorem gone_fAliveChk : gone .fAliveChk = false := rfl
@[simp] theorem gone_fWait : gone .fWait = false := rfl
@[simp] theorem gone_fWaiting : gone .fWaiting = false := rfl
@[simp] theorem gone_fUnlock : gone .fUnlock = false := rfl
@[simp] theorem gone_fJoinInit : gone .fJoinInit = false := rfl
@[simp] theorem gone_fJoin : gone .fJoin = false := rfl
@[simp] theorem gone_fCondDestroy : gone .fCondDestroy = false := rfl
@[simp] theorem gone_fMutDestroy : gone .fMutDestroy = false := rfl
@[simp] theorem gone_fQueueFree : gone .fQueueFree = false := rfl
@[simp] theorem gone_fListFree : gone .fListFree = false := rfl
@[simp] theorem gone_fFreePool : gone .fFreePool = false := rfl
@[simp] theorem gone_fRet : gone .fRet = false := rfl
@[simp] theorem gone_mDone : gone .mDone = false := rfl

/-- inside pthread_cond_wait -/
def waitingPc : Pc → Bool
  | .wWaiting | .fWaiting => true
  | _ => false
@[simp] theorem waitingPc_none : waitingPc .none = false := rfl
@[simp] theorem waitingPc_wLock : waitingPc .wLock = false := rfl
@[simp] theorem waitingPc_wLoop : waitingPc .wLoop = false := rfl
@[simp] theorem waitingPc_wWait : waitingPc .wWait = false := rfl
@[simp] theorem waitingPc_wWaiting : waitingPc .wWaiting = true := rfl
@[simp] theorem waitingPc_wBreakChk : waitingPc .wBreakChk = false := rfl
@[simp] theorem waitingPc_wBreakLen : waitingPc .wBreakLen = false := rfl
@[simp] theorem waitingPc_wDequeue : waitingPc .wDequeue = false := rfl
@[simp] theorem waitingPc_wUnlock : waitingPc .wUnlock = false := rfl
@[simp] theorem waitingPc_wInc : waitingPc .wInc = false := rfl
@[simp] theorem waitingPc_wCall : waitingPc .wCall = false := rfl
@[simp] theorem waitingPc_wInTask : waitingPc .wInTask = false := rfl
@[simp] theorem waitingPc_wDec : waitingPc .wDec = false := rfl
@[simp] theorem waitingPc_wExitDec : waitingPc .wExitDec = false := rfl
@[simp] theorem waitingPc_wExitBcast : waitingPc .wExitBcast = false := rfl
@[simp] theorem waitingPc_wExitUnlock : waitingPc .wExitUnlock = false := rfl
@[simp] theorem waitingPc_wRet : waitingPc .wRet = false := rfl
@[simp] theorem waitingPc_wDone : waitingPc .wDone = false := rfl
@[simp] theorem waitingPc_sIdle : waitingPc .sIdle = false := rfl
@[simp] theorem waitingPc_sLock : waitingPc .sLock = false := rfl
@[simp] theorem waitingPc_sShutChk : waitingPc .sShutChk = false := rfl
@[simp] theorem waitingPc_sPermUnlock : waitingPc .sPermUnlock = false := rfl
@[simp] theorem waitingPc_sLazy0 : waitingPc .sLazy0 = false := rfl
@[simp] theorem waitingPc_sLazy1 : waitingPc .sLazy1 = false := rfl
@[simp] theorem waitingPc_sLazy2 : waitingPc .sLazy2 = false := rfl
@[simp] theorem waitingPc_sCreate : waitingPc .sCreate = false := rfl
@[simp] theorem waitingPc_sInsert : waitingPc .sInsert = false := rfl
@[simp] theorem waitingPc_sFailUnlock : waitingPc .sFailUnlock = false := rfl
@[simp] theorem waitingPc_sEnq : waitingPc .sEnq = false := rfl
@[simp] theorem waitingPc_sSignal : waitingPc .sSignal = false := rfl
@[simp] theorem waitingPc_sUnlock : waitingPc .sUnlock = false := rfl
@[simp] theorem waitingPc_sRetOk : waitingPc .sRetOk = false := rfl
@[simp] theorem waitingPc_sRetPerm : waitingPc .sRetPerm = false := rfl
@[simp] theorem waitingPc_sRetFail : waitingPc .sRetFail = false := rfl
@[simp] theorem waitingPc_nLock : waitingPc .nLock = false := rfl
@[simp] theorem waitingPc_nShutChk : waitingPc .nShutChk = false := rfl
@[simp] theorem waitingPc_nPermUnlock : waitingPc .nPermUnlock = false := rfl
@[simp] theorem waitingPc_nLazy0 : waitingPc .nLazy0 = false := rfl
@[simp] theorem waitingPc_nLazy1 : waitingPc .nLazy1 = false := rfl
@[simp] theorem waitingPc_nLazy2 : waitingPc .nLazy2 = false := rfl
@[simp] theorem waitingPc_nCreate : waitingPc .nCreate = false := rfl
@[simp] theorem waitingPc_nInsert : waitingPc .nInsert = false := rfl
@[simp] theorem waitingPc_nFailUnlock : waitingPc .nFailUnlock = false := rfl
@[simp] theorem waitingPc_nEnq : waitingPc .nEnq = false := rfl
@[simp] theorem waitingPc_nSignal : waitingPc .nSignal = false := rfl
@[simp] theorem waitingPc_nUnlock : waitingPc .nUnlock = false := rfl
@[simp] theorem waitingPc_nRetOk : waitingPc .nRetOk = false := rfl
@[simp] theorem waitingPc_nRetPerm : waitingPc .nRetPerm = false := rfl
@[simp] theorem waitingPc_nRetFail : waitingPc .nRetFail = false := rfl
@[simp] theorem waitingPc_mNewCreate : waitingPc .mNewCreate = false := rfl
@[simp] theorem waitingPc_mNewInsert : waitingPc .mNewInsert = false := rfl
@[simp] theorem waitingPc_mNewRet : waitingPc .mNewRet = false := rfl
@[simp] theorem waitingPc_mIdle : waitingPc .mIdle = false := rfl
@[simp] theorem waitingPc_fLock : waitingPc .fLock = false := rfl
@[simp] theorem waitingPc_fSetShut : waitingPc .fSetShut = false := rfl
@[simp] theorem waitingPc_fBcast : waitingPc .fBcast = false := rfl
@[simp] theorem waitingPc_fAliveChk : waitingPc .fAliveChk = false := rfl
@[simp] theorem waitingPc_fWait : waitingPc .fWait = false := rfl
@[simp] theorem waitingPc_fWaiting : waitingPc .fWaiting = true := rfl
@[simp] theorem waitingPc_fUnlock : waitingPc .fUnlock = false := rfl
@[simp] theorem waitingPc_fJoinInit : waitingPc .fJoinInit = false := rfl
@[simp] theorem waitingPc_fJoin : waitingPc .fJoin = false := rfl
@[simp] theorem waitingPc_fCondDestroy : waitingPc .fCondDestroy = false := rfl
@[simp] theorem waitingPc_fMutDestroy : waitingPc .fMutDestroy = false := rfl
@[simp] theorem waitingPc_fQueueFree : waitingPc .fQueueFree = false := rfl
@[simp] theorem waitingPc_fListFree : waitingPc .fListFree = false := rfl
@[simp] theorem waitingPc_fFreePool : waitingPc .fFreePool = false := rfl
@[simp] theorem waitingPc_fRet : waitingPc .fRet = false := rfl
@[simp] theorem waitingPc_mDone : waitingPc .mDone = false := rfl

/-- blocked in pthread_mutex_lock -/
def wantsLock : Pc → Bool
  | .wLock | .sLock | .nLock | .fLock => true
  | _ => false
@[simp] theorem wantsLock_none : wantsLock .none = false := rfl
@[simp] theorem wantsLock_wLock : wantsLock .wLock = true := rfl
@[simp] theorem wantsLock_wLoop : wantsLock .wLoop = false := rfl
@[simp] theorem wantsLock_wWait : wantsLock .wWait = false := rfl
@[simp] theorem wantsLock_wWaiting : wantsLock .wWaiting = false := rfl
@[simp] theorem wantsLock_wBreakChk : wantsLock .wBreakChk = false := rfl
@[simp] theorem wantsLock_wBreakLen : wantsLock .wBreakLen = false := rfl
@[simp] theorem wantsLock_wDequeue : wantsLock .wDequeue = false := rfl
@[simp] theorem wantsLock_wUnlock : wantsLock .wUnlock = false := rfl
@[simp] theorem wantsLock_wInc : wantsLock .wInc = false := rfl
@[simp] theorem wantsLock_wCall : wantsLock .wCall = false := rfl
@[simp] theorem wantsLock_wInTask : wantsLock .wInTask = false := rfl
@[simp] theorem wantsLock_wDec : wantsLock .wDec = false := rfl
@[simp] theorem wantsLock_wExitDec : wantsLock .wExitDec = false := rfl
@[simp] theorem wantsLock_wExitBcast : wantsLock .wExitBcast = false := rfl
@[simp] theorem wantsLock_wExitUnlock : wantsLock .wExitUnlock = false := rfl
@[simp] theorem wantsLock_wRet : wantsLock .wRet = false := rfl
@[simp] theorem wantsLock_wDone : wantsLock .wDone = false := rfl
@[simp] theorem wantsLock_sIdle : wantsLock .sIdle = false := rfl
@[simp] theorem wantsLock_sLock : wantsLock .sLock = true := rfl
@[simp] theorem wantsLock_sShutChk : wantsLock .sShutChk = false := rfl
@[simp] theorem wantsLock_sPermUnlock : wantsLock .sPermUnlock = false := rfl
@[simp] theorem wantsLock_sLazy0 : wantsLock .sLazy0 = false := rfl
@[simp] theorem wantsLock_sLazy1 : wantsLock .sLazy1 = false := rfl
@[simp] theorem wantsLock_sLazy2 : wantsLock .sLazy2 = false := rfl
@[simp] theorem wantsLock_sCreate : wantsLock .sCreate = false := rfl
@[simp] theorem wantsLock_sInsert : wantsLock .sInsert = false := rfl
@[simp] theorem wantsLock_sFailUnlock : wantsLock .sFailUnlock = false := rfl
@[simp] theorem wantsLock_sEnq : wantsLock .sEnq = false := rfl
@[simp] theorem wantsLock_sSignal : wantsLock .sSignal = false := rfl
@[simp] theorem wantsLock_sUnlock : wantsLock .sUnlock = false := rfl
@[simp] theorem wantsLock_sRetOk : wantsLock .sRetOk = false := rfl
@[simp] theorem wantsLock_sRetPerm : wantsLock .sRetPerm = false := rfl
@[simp] theorem wantsLock_sRetFail : wantsLock .sRetFail = false := rfl
@[simp] theorem wantsLock_nLock : wantsLock .nLock = true := rfl
@[simp] theorem wantsLock_nShutChk : wantsLock .nShutChk = false := rfl
@[simp] theorem wantsLock_nPermUnlock : wantsLock .nPermUnlock = false := rfl
@[simp] theorem wantsLock_nLazy0 : wantsLock .nLazy0 = false := rfl
@[simp] theorem wantsLock_nLazy1 : wantsLock .nLazy1 = false := rfl
@[simp] theorem wantsLock_nLazy2 : wantsLock .nLazy2 = false := rfl
@[simp] theorem wantsLock_nCreate : wantsLock .nCreate = false := rfl
@[simp] theorem wantsLock_nInsert : wantsLock .nInsert = false := rfl
@[simp] theorem wantsLock_nFailUnlock : wantsLock .nFailUnlock = false := rfl
@[simp] theorem wantsLock_nEnq : wantsLock .nEnq = false := rfl
@[simp] theorem wantsLock_nSignal : wantsLock .nSignal = false := rfl
@[simp] theorem wantsLock_nUnlock : wantsLock .nUnlock = false := rfl
@[simp] theorem wantsLock_nRetOk : wantsLock .nRetOk = false := rfl
@[simp] theorem wantsLock_nRetPerm : wantsLock .nRetPerm = false := rfl
@[simp] theorem wantsLock_nRetFail : wantsLock .nRetFail = false := rfl
@[simp] theorem wantsLock_mNewCreate : wantsLock .mNewCreate = false := rfl
@[simp] theorem wantsLock_mNewInsert : wantsLock .mNewInsert = false := rfl
@[simp] theorem wantsLock_mNewRet : wantsLock .mNewRet = false := rfl
@[simp] theorem wantsLock_mIdle : wantsLock .mIdle = false := rfl
@[simp] theorem wantsLock_fLock : wantsLock .fLock = true := rfl
@[simp] theorem wantsLock_fSetShut : wantsLock .fSetShut = false := rfl
@[simp] theorem wantsLock_fBcast : wantsLock .fBcast = false := rfl
@[simp] theorem wantsLock_fAliveChk : wantsLock .fAliveChk = false := rfl
@[simp] theorem wantsLock_fWait : wantsLock .fWait = false := rfl
@[simp] theorem wantsLock_fWaiting : wantsLock .fWaiting = false := rfl
@[simp] theorem wantsLock_fUnlock : wantsLock .fUnlock = false := rfl
@[simp] theorem wantsLock_fJoinInit : wantsLock .fJoinInit = false := rfl
@[simp] theorem wantsLock_fJoin : wantsLock .fJoin = false := rfl
@[simp] theorem wantsLock_fCondDestroy : wantsLock .fCondDestroy = false := rfl
@[simp] theorem wantsLock_fMutDestroy : wantsLock .fMutDestroy = false := rfl
@[simp] theorem wantsLock_fQueueFree : wantsLock .fQueueFree = false := rfl
@[simp] theorem wantsLock_fListFree : wantsLock .fListFree = false := rfl
@[simp] theorem wantsLock_fFreePool : wantsLock .fFreePool = false := rfl
@[simp] theorem wantsLock_fRet : wantsLock .fRet = false := rfl
@[simp] theorem wantsLock_mDone : wantsLock .mDone = false := rfl

/-- how far thread 0 has got (0 for the program counters of other threads) -/
def ph : Pc → Nat
  | .mNewCreate => 0
  | .mNewInsert => 0
  | .mNewRet => 1
  | .mIdle => 2
  | .fLock => 3
  | .fSetShut => 4
  | .fBcast => 5
  | .fAliveChk => 6
  | .fWait => 6
  | .fWaiting => 6
  | .fUnlock => 7
  | .fJoinInit => 8
  | .fJoin => 9
  | .fCondDestroy => 10
  | .fMutDestroy => 11
  | .fQueueFree => 12
  | .fListFree => 13
  | .fFreePool => 14
  | .fRet => 15
  | .mDone => 16
  | _ => 0
@[simp] theorem ph_none : ph .none = 0 := rfl
@[simp] theorem ph_wLock : ph .wLock = 0 := rfl
@[simp] theorem ph_wLoop : ph .wLoop = 0 := rfl
@[simp] theorem ph_wWait : ph .wWait = 0 := rfl
@[simp] theorem ph_wWaiting : ph .wWaiting = 0 := rfl
@[simp] theorem ph_wBreakChk : ph .wBreakChk = 0 := rfl
@[simp] theorem ph_wBreakLen : ph .wBreakLen = 0 := rfl
@[simp] theorem ph_wDequeue : ph .wDequeue = 0 := rfl
@[simp] theorem ph_wUnlock : ph .wUnlock = 0 := rfl
@[simp] theorem ph_wInc : ph .wInc = 0 := rfl
@[simp] theorem ph_wCall : ph .wCall = 0 := rfl
@[simp] theorem ph_wInTask : ph .wInTask = 0 := rfl
@[simp] theorem ph_wDec : ph .wDec = 0 := rfl
@[simp] theorem ph_wExitDec : ph .wExitDec = 0 := rfl
@[simp] theorem ph_wExitBcast : ph .wExitBcast = 0 := rfl
@[simp] theorem ph_wExitUnlock : ph .wExitUnlock = 0 := rfl
@[simp] theorem ph_wRet : ph .wRet = 0 := rfl
@[simp] theorem ph_wDone : ph .wDone = 0 := rfl
@[simp] theorem ph_sIdle : ph .sIdle = 0 := rfl
@[simp] theorem ph_sLock : ph .sLock = 0 := rfl
@[simp] theorem ph_sShutChk : ph .sShutChk = 0 := rfl
@[simp] theorem ph_sPermUnlock : ph .sPermUnlock = 0 := rfl
@[simp] theorem ph_sLazy0 : ph .sLazy0 = 0 := rfl
@[simp] theorem ph_sLazy1 : ph .sLazy1 = 0 := rfl
@[simp] theorem ph_sLazy2 : ph .sLazy2 = 0 := rfl
@[simp] theorem ph_sCreate : ph .sCreate = 0 := rfl
@[simp] theorem ph_sInsert : ph .sInsert = 0 := rfl
@[simp] theorem ph_sFailUnlock : ph .sFailUnlock = 0 := rfl
@[simp] theorem ph_sEnq : ph .sEnq = 0 := rfl
@[simp] theorem ph_sSignal : ph .sSignal = 0 := rfl
@[simp] theorem ph_sUnlock : ph .sUnlock = 0 := rfl
@[simp] theorem ph_sRetOk : ph .sRetOk = 0 := rfl
@[simp] theorem ph_sRetPerm : ph .sRetPerm = 0 := rfl
@[simp] theorem ph_sRetFail : ph .sRetFail = 0 := rfl
@[simp] theorem ph_nLock : ph .nLock = 0 := rfl
@[simp] theorem ph_nShutChk : ph .nShutChk = 0 := rfl
@[simp] theorem ph_nPermUnlock : ph .nPermUnlock = 0 := rfl
@[simp] theorem ph_nLazy0 : ph .nLazy0 = 0 := rfl
@[simp] theorem ph_nLazy1 : ph .nLazy1 = 0 := rfl
@[simp] theorem ph_nLazy2 : ph .nLazy2 = 0 := rfl
@[simp] theorem ph_nCreate : ph .nCreate = 0 := rfl
@[simp] theorem ph_nInsert : ph .nInsert = 0 := rfl
@[simp] theorem ph_nFailUnlock : ph .nFailUnlock = 0 := rfl
@[simp] theorem ph_nEnq : ph .nEnq = 0 := rfl
@[simp] theorem ph_nSignal : ph .nSignal = 0 := rfl
@[simp] theorem ph_nUnlock : ph .nUnlock = 0 := rfl
@[simp] theorem ph_nRetOk : ph .nRetOk = 0 := rfl
@[simp] theorem ph_nRetPerm : ph .nRetPerm = 0 := rfl
@[simp] theorem ph_nRetFail : ph .nRetFail = 0 := rfl
@[simp] theorem ph_mNewCreate : ph .mNewCreate = 0 := rfl
@[simp] theorem ph_mNewInsert : ph .mNewInsert = 0 := rfl
@[simp] theorem ph_mNewRet : ph .mNewRet = 1 := rfl
@[simp] theorem ph_mIdle : ph .mIdle = 2 := rfl
@[simp] theorem ph_fLock : ph .fLock = 3 := rfl
@[simp] theorem ph_fSetShut : ph .fSetShut = 4 := rfl
@[simp] theorem ph_fBcast : ph .fBcast = 5 := rfl
@[simp] theorem ph_fAliveChk : ph .fAliveChk = 6 := rfl
@[simp] theorem ph_fWait : ph .fWait = 6 := rfl
@[simp] theorem ph_fWaiting : ph .fWaiting = 6 := rfl
@[simp] theorem ph_fUnlock : ph .fUnlock = 7 := rfl
@[simp] theorem ph_fJoinInit : ph .fJoinInit = 8 := rfl
@[simp] theorem ph_fJoin : ph .fJoin = 9 := rfl
@[simp] theorem ph_fCondDestroy : ph .fCondDestroy = 10 := rfl
@[simp] theorem ph_fMutDestroy : ph .fMutDestroy = 11 := rfl
@[simp] theorem ph_fQueueFree : ph .fQueueFree = 12 := rfl
@[simp] theorem ph_fListFree : ph .fListFree = 13 := rfl
@[simp] theorem ph_fFreePool : ph .fFreePool = 14 := rfl
@[simp] theorem ph_fRet : ph .fRet = 15 := rfl
@[simp] theorem ph_mDone : ph .mDone = 16 := rfl
