import Lm.Inv.C12Stack
/-! # `list.c` refines the list array machine -/
namespace Lm.Struct.ListM
open Lm.Struct Lm.Spec.C12

theorem scan_eq (p : Val → Bool) : ∀ (c : Chain) (i : Nat),
    scan p c.length c i =
      if (vals c).findIdx p < c.length then .hit (i + (vals c).findIdx p) else .miss (i + c.length)
  | [], i => rfl
  | nd :: rest, i => by
    rw [vals, List.map_cons, List.findIdx_cons, List.length_cons, scan]
    cases p nd.val with
    | true => rw [if_pos rfl, cond_true, if_pos (Nat.succ_pos _)]; rfl
    | false =>
      rw [if_neg Bool.false_ne_true, cond_false, scan_eq p rest (i + 1), vals]
      simp only [Nat.add_lt_add_iff_right, Nat.add_assoc, Nat.add_comm 1]

theorem scan_first (p : Val → Bool) {q : Cont} (wf : q.WF) :
    let j := (vals q.chain).findIdx p
    (j < q.chain.length ∧ scan p q.len q.chain 0 = .hit j) ∨ (j = q.chain.length ∧ scan p q.len q.chain 0 = .miss j) := by
  intro j
  have hle : j ≤ q.chain.length := vals_length q.chain ▸ List.findIdx_le_length
  rw [wf.len, scan_eq, Nat.zero_add, Nat.zero_add]
  by_cases hlt : j < q.chain.length
  · exact Or.inl ⟨hlt, if_pos hlt⟩
  · have e : j = q.chain.length := by omega
    exact Or.inr ⟨e, (if_neg hlt).trans (by rw [e])⟩

/-- `isMatch` of the model and `hits` of the specification unfold to the same test -/
theorem scan_match (eq : Val → Val → Bool) {q : Cont} (wf : q.WF) (v : Val) :
    let j := (vals q.chain).findIdx (Spec.C12.ListM.hits eq q.cmp v)
    (j < q.chain.length ∧ scan (isMatch eq q.cmp v) q.len q.chain 0 = .hit j) ∨
    (j = q.chain.length ∧ scan (isMatch eq q.cmp v) q.len q.chain 0 = .miss j) :=
  scan_first (isMatch eq q.cmp v) wf

theorem R_list_tail {q : Cont} (tl : tailOK .list q) (c : Chain) (n f : Nat) :
    tailOK .list { q with chain := c, len := n, fresh := f } := tl

/-- both exits of the loop of `m_list_insert` leave `tmp` at the index the array machine inserts at -/
theorem insert_some (eq : Val → Val → Bool) {q : Cont} (wf : q.WF) {v : Val} (hv : v ≠ 0) (itr : Option Itr) (log : List Ev)
    (f : Bool) (cur : Option ACur) :
    insert eq ⟨some q, itr, log, f⟩ v =
      (⟨some (insertNode q (Spec.C12.ListM.insPos eq (absOf q log cur) v) v), itr, log, f⟩, .int 0) := by
  have hp : Spec.C12.ListM.insPos eq (absOf q log cur) v = if q.cmp then (vals q.chain).findIdx (fun x => eq v x) else 0 := rfl
  simp only [insert, hv, if_false, hp]
  cases q.cmp with
  | false => rfl
  | true => rcases scan_first (fun x => eq v x) wf with ⟨_, hs⟩ | ⟨_, hs⟩ <;> simp only [hs, if_true]

theorem insert_R (eq : Val → Val → Bool) {s : St} {a : ASt} (v : Val) (h : R .list s a) (hi : s.itr = none) :
    R .list (insert eq s v).1 (Spec.C12.ListM.step eq a (.ins v)).1 ∧
    (insert eq s v).2 = (Spec.C12.ListM.step eq a (.ins v)).2 := by
  refine h.noItrCases hi (fun _ _ _ => ⟨R.dead, by simp [insert, Spec.C12.ListM.step]⟩) fun q log wf tl => ?_
  by_cases hv : v = 0
  · simpa [insert, Spec.C12.ListM.step, hv] using R.idle (log := log) wf tl
  · have hj := vals_length q.chain ▸ Spec.C12.ListM.insPos_le eq (absOf q log none) v
    rw [insert_some eq wf hv _ _ _ none]
    simp only [Spec.C12.ListM.step, hv, ne_eq, not_false_eq_true, and_true]
    generalize Spec.C12.ListM.insPos eq (absOf q log none) v = j at hj ⊢
    exact ⟨by simpa [absOf, insertNode, vals_insertAt _ hj] using R.idle (k := .list) (log := log) (wf.insert hj hv) tl, rfl⟩

theorem remove_R (eq : Val → Val → Bool) {s : St} {a : ASt} (v : Val) (h : R .list s a) (hi : s.itr = none) :
    R .list (remove eq s v).1 (Spec.C12.ListM.step eq a (.rm v)).1 ∧
    (remove eq s v).2 = (Spec.C12.ListM.step eq a (.rm v)).2 := by
  refine h.noItrCases hi (fun _ _ _ => ⟨R.dead, by simp [remove, cLen, EINVAL, Spec.C12.ListM.step]⟩) fun q log wf tl => ?_
  have h := R.idle (log := log) wf tl
  by_cases hx : q.chain = []
  · simpa [remove, cLen, wf.len, hx, Spec.C12.ListM.step, absOf, vals] using h
  have hpos : (0 : Int) < q.len := by simp [wf.len]; exact List.length_pos_iff.mpr hx
  by_cases hv : v = 0
  · simpa [remove, cLen, hpos, Spec.C12.ListM.step, hv] using h
  simp only [remove, cLen, gt_iff_lt, hpos, if_true, hv, if_false, Spec.C12.ListM.step, absOf, vals_eq_nil, hx, or_self,
    List.find?_eq_getElem?_findIdx]
  rcases scan_match eq wf v with ⟨hlt, hs⟩ | ⟨he, hs⟩
  · have := R.idle (k := .list) (log := callDtor q.dtor log q.chain[(vals q.chain).findIdx (Spec.C12.ListM.hits eq q.cmp v)].val)
      (wf.erase hlt _) tl
    simp only [hs, removeNode, List.getElem?_eq_getElem hlt, vals_getElem?, Option.map_some]
    exact ⟨by simpa [absOf, vals_eraseAt, absEv_callDtor] using this, trivial⟩
  · have hnd : q.chain[(vals q.chain).findIdx (Spec.C12.ListM.hits eq q.cmp v)]? = none := by rw [he]; simp
    simp only [hs, removeNode, hnd, vals_getElem?, Option.map_none]
    exact ⟨h, trivial⟩

theorem find_null (eq : Val → Val → Bool) (s : St) : find eq s 0 = (s, .ptr 0) := by
  unfold find; split <;> simp

theorem find_some (eq : Val → Val → Bool) {q : Cont} (wf : q.WF) {v : Val} (hv : v ≠ 0)
    (itr : Option Itr) (log : List Ev) (f : Bool) :
    find eq ⟨some q, itr, log, f⟩ v =
      (⟨some q, itr, log, f⟩, .ptr (((vals q.chain).find? (Spec.C12.ListM.hits eq q.cmp v)).getD 0)) := by
  simp only [find, hv, if_false, List.find?_eq_getElem?_findIdx, vals_getElem?]
  rcases scan_match eq wf v with ⟨hlt, hs⟩ | ⟨he, hs⟩ <;> simp only [hs]
  · simp only [List.getElem?_eq_getElem hlt]; rfl
  · simp [he]

theorem find_R (eq : Val → Val → Bool) {s : St} {a : ASt} (v : Val) (h : R .list s a) :
    R .list (find eq s v).1 (Spec.C12.ListM.step eq a (.find v)).1 ∧
    (find eq s v).2 = (Spec.C12.ListM.step eq a (.find v)).2 := by
  by_cases hv : v = 0
  · subst hv; rw [find_null]; exact ⟨h, rfl⟩
  refine h.objCases (fun _ _ _ => ⟨by simpa [find, Spec.C12.ListM.step, hv] using R.dead, by simp [find, Spec.C12.ListM.step, hv]⟩) ?_
  intro q itr log cur wf tl h
  rw [find_some eq wf hv]
  simp only [Spec.C12.ListM.step, hv, if_false, absOf]
  cases (vals q.chain).find? (Spec.C12.ListM.hits eq q.cmp v) <;> exact ⟨h, rfl⟩

variable {eq : Val → Val → Bool}

theorem clearLoop_eq (d : Bool) : ∀ (c : Chain) (n : Nat) (log : List Ev),
    (clearLoop d c n log).1 = n - c.length ∧
    (clearLoop d c n log).2.map absEv = log.map absEv ++ drop d (vals c)
  | [], n, log => ⟨rfl, by rw [clearLoop, vals, List.map_nil, drop_nil, List.append_nil]⟩
  | nd :: rest, n, log => by
    have ih := clearLoop_eq d rest (n - 1) (callDtor d log nd.val)
    rw [clearLoop, ih.1, ih.2, absEv_callDtor, List.append_assoc, ← drop_cons]
    exact ⟨by rw [Nat.sub_sub, Nat.add_comm]; rfl, rfl⟩

theorem clear_R {s : St} {a : ASt} (h : R .list s a) (hi : s.itr = none) :
    R .list (clear s).1 (Spec.C12.ListM.step eq a .clear).1 ∧ (clear s).2 = (Spec.C12.ListM.step eq a .clear).2 ∧
    (clear s).1.itr = none := by
  refine h.noItrCases hi (fun _ _ _ => ⟨R.dead, by simp [clear, Spec.C12.ListM.step], rfl⟩) fun q log wf tl => ?_
  simp only [clear, Spec.C12.ListM.step, absOf, if_true]
  by_cases hl : q.len > 0
  · have e := clearLoop_eq q.dtor q.chain q.len log
    have := R.idle (k := .list) (q := { q with chain := [], len := (clearLoop q.dtor q.chain q.len log).1 })
      (log := (clearLoop q.dtor q.chain q.len log).2) (.nil rfl (by rw [e.1, wf.len, Nat.sub_self])) tl
    simp only [hl, if_true]
    exact ⟨by simpa [absOf, vals, e.2] using this, trivial, trivial⟩
  · have hc : q.chain = [] := List.eq_nil_of_length_eq_zero (by rw [← wf.len]; omega)
    simp only [hl, if_false]
    exact ⟨by simpa [absOf, vals, hc, drop_nil] using R.idle (log := log) wf tl, trivial, trivial⟩

theorem free_R {s : St} {a : ASt} (h : R .list s a) :
    R .list (free s).1 (Spec.C12.ListM.step eq a .free).1 ∧ (free s).2 = (Spec.C12.ListM.step eq a .free).2 := by
  refine h.objCases (fun _ _ _ => ⟨by simpa [free, clear, Spec.C12.ListM.step, EINVAL] using R.dead,
    by simp [free, clear, Spec.C12.ListM.step, EINVAL]⟩) ?_
  intro q itr log cur wf tl h
  have hc := clear_R (eq := eq) h.noItr rfl
  have e : clear ⟨some q, none, log, false⟩ = ((clear ⟨some q, none, log, false⟩).1, .int 0) := by
    simp only [clear]; split <;> rfl
  simp only [Spec.C12.ListM.step, absOf, if_true] at hc ⊢
  simp only [free]; rw [e]
  exact ⟨hc.1.freed hc.2.2, rfl⟩

theorem itrNew_R {s : St} {a : ASt} (h : R .list s a) :
    R .list (noteCur (itrNew s)).1 (itNew a).1 ∧ (noteCur (itrNew s)).2 = (itNew a).2 := by
  refine h.objCases (fun _ _ _ => ⟨R.dead, rfl⟩) fun q itr log cur wf tl _ => ?_
  rw [noteCur_itrNew wf.len, itNew_eq]
  exact ⟨settleAt_R wf tl rfl rfl rfl log cur, by simp [absOf, vals]⟩

theorem itrNext_R {s : St} {a : ASt} (h : R .list s a) :
    R .list (noteCur (itrNext s)).1 (Spec.C12.ListM.step eq a .itNext).1 ∧
    (noteCur (itrNext s)).2 = (Spec.C12.ListM.step eq a .itNext).2 := by
  refine h.cases (fun _ _ _ => ⟨R.dead, rfl⟩) (fun q log wf tl => ⟨R.idle wf tl, rfl⟩) ?_
  intro q it log p r d wf tl hp hr hd hs
  obtain ⟨l, p', e, hl, e1⟩ := noteCur_itrNext wf.nodup hp log
  rw [hd] at e
  simp only [e1, Spec.C12.ListM.step, absOf, vals_length, ← e]
  exact ⟨settleAt_R (it := { it with elem := l, diff := 0 }) wf tl hl hs rfl log _, (settle_snd ..).symm⟩

theorem itrGet_R {s : St} {a : ASt} (h : R .list s a) :
    R .list (itrGet s).1 (Spec.C12.ListM.step eq a .itGet).1 ∧ (itrGet s).2 = (Spec.C12.ListM.step eq a .itGet).2 := by
  refine h.cases (fun _ _ _ => ⟨R.dead, rfl⟩) (fun q log wf tl => ⟨R.idle wf tl, rfl⟩) ?_
  intro q it log p r d wf tl hp hr hd hs
  rw [itrGet_live hp]
  simp only [Spec.C12.ListM.step, absOf]
  cases (vals q.chain)[p]? <;> exact ⟨R.live wf tl hp hr hd hs, rfl⟩

theorem itrSet_R {s : St} {a : ASt} (v : Val) (h : R .list s a) :
    R .list (itrSet s v).1 (Spec.C12.ListM.step eq a (.itSet v)).1 ∧
    (itrSet s v).2 = (Spec.C12.ListM.step eq a (.itSet v)).2 := by
  refine h.cases (fun _ _ _ => ⟨R.dead, rfl⟩) (fun q log wf tl => ⟨R.idle wf tl, rfl⟩) ?_
  intro q it log p r d wf tl hp hr hd hs
  rw [itrSet_live hp]
  simp only [Spec.C12.ListM.step, absOf, vals_length]
  by_cases hg : v = 0 ∨ p ≥ q.chain.length
  · simp only [hg, if_true]; exact ⟨R.live wf tl hp hr hd hs, trivial⟩
  · have := R.live (log := log) (wf.set p fun e => hg (Or.inl e)) (tailOK_setAt tl p v) ((linkPos_setAt ..).trans hp)
      hr hd hs
    simp only [hg, if_false]
    exact ⟨by simpa [absOf, vals_setAt] using this, trivial⟩

theorem itrInsert_R {s : St} {a : ASt} (v : Val) (h : R .list s a) :
    R .list (itrInsert s v).1 (Spec.C12.ListM.step eq a (.itIns v)).1 ∧
    (itrInsert s v).2 = (Spec.C12.ListM.step eq a (.itIns v)).2 := by
  refine h.cases (fun _ _ _ => ⟨R.dead, rfl⟩) (fun q log wf tl => ⟨R.idle wf tl, rfl⟩) ?_
  intro q it log p r d wf tl hp hr hd hs
  rw [itrInsert_live hp]
  simp only [Spec.C12.ListM.step, absOf]
  by_cases hv : v = 0
  · simp only [hv, if_true]; exact ⟨R.live wf tl hp hr hd hs, trivial⟩
  · have hple := linkPos_le hp
    have := R.live (k := .list) (it := { it with diff := it.diff + 1 }) (log := log) (wf.insert hple hv) tl
      (linkPos_insertAt _ hp) hr (congrArg (· + 1) hd) hs
    simp only [hv, if_false]
    exact ⟨by simpa [absOf, insertNode, vals_insertAt _ hple] using this, trivial⟩

theorem itrRemove_R {s : St} {a : ASt} (h : R .list s a) :
    R .list (itrRemove s).1 (Spec.C12.ListM.step eq a .itRm).1 ∧
    (itrRemove s).2 = (Spec.C12.ListM.step eq a .itRm).2 := by
  refine h.cases (fun _ _ _ => ⟨R.dead, rfl⟩) (fun q log wf tl => ⟨R.idle wf tl, rfl⟩) ?_
  intro q it log p r d wf tl hp hr hd hs
  rw [itrRemove_live hp]
  simp only [Spec.C12.ListM.step, absOf, vals_getElem?]
  cases hnd : q.chain[p]? with
  | none => exact ⟨R.live wf tl hp hr hd hs, rfl⟩
  | some nd =>
    have := R.live (k := .list) (it := { it with diff := it.diff - 1 }) (log := callDtor q.dtor log nd.val)
      (wf.erase (lt_of_getElem?_some hnd) _) tl (linkPos_eraseAt hp) hr (congrArg (· - 1) hd) hs
    exact ⟨by simpa [absOf, vals_eraseAt, absEv_callDtor] using this, rfl⟩

theorem step_R (eq : Val → Val → Bool) {s : St} {a : ASt} (o : Op) (h : R .list s a) (hok : okOp s o = true) :
    R .list (step eq s o).1 (Spec.C12.ListM.step eq a o).1 ∧ (step eq s o).2 = (Spec.C12.ListM.step eq a o).2 := by
  cases o with
  | ins v => exact insert_R eq v h (itr_none_of_ok hok rfl)
  | rm v => exact remove_R eq v h (itr_none_of_ok hok rfl)
  | find v => exact find_R eq v h
  | len => exact ⟨h, congrArg Ret.int (R_len h)⟩
  | clear => have := clear_R (eq := eq) h (itr_none_of_ok hok rfl); exact ⟨this.1, this.2.1⟩
  | free => exact free_R h
  | iterate k => exact iterate_R k h
  | itNew => exact itrNew_R h
  | itNext => exact itrNext_R h
  | itGet => exact itrGet_R h
  | itSet v => exact itrSet_R v h
  | itRm => exact itrRemove_R h
  | itIns v => exact itrInsert_R v h

theorem run_R (eq : Val → Val → Bool) : ∀ (ops : List Op) {s : St} {a : ASt}, R .list s a → okRun eq s ops = true →
    R .list (run eq s ops) (Spec.C12.ListM.run eq a ops) ∧ trace eq s ops = Spec.C12.ListM.trace eq a ops
  | [], s, a, h, _ => ⟨h, rfl⟩
  | o :: os, s, a, h, hok => by
    simp only [okRun, Bool.and_eq_true] at hok
    have h1 := step_R eq o h hok.1
    have h2 := run_R eq os h1.1 hok.2
    simp only [run, List.foldl_cons, Spec.C12.ListM.run, trace, Spec.C12.ListM.trace, h1.2] at h2 ⊢
    exact ⟨h2.1, by rw [h2.2]⟩

theorem init_R (dtor cmp : Bool) : R .list (new dtor cmp) (Spec.C12.ListM.init dtor cmp) :=
  R.idle (q := { dtor := dtor, cmp := cmp }) (.nil rfl rfl) rfl

end Lm.Struct.ListM
