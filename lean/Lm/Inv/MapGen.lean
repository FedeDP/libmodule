import Lm.Struct.MapGen
import Lm.Inv.Map
/-!
# Tie A for C05: the fragments regenerated from `map.c` satisfy the side conditions of the proofs

Every statement here is about the definitions in `Lm.Generated.Map`, which are rewritten from the C
source on every run.  If `MAP_PROBE_LEN`, `MAP_SIZE_MOD`, the load rule, the back-shift decision or
`MAP_SIZE_DEFAULT` change so that a side condition becomes false, this file stops compiling.
-/
namespace Lm.Struct.Map
open Lm.Generated.Map

theorem ofNat_toNat_lt {n : Nat} (h : n < 2 ^ 64) : (BitVec.ofNat 64 n).toNat = n := by
  simp [BitVec.toNat_ofNat, Nat.mod_eq_of_lt h]

theorem one32 : (BitVec.signExtend 64 1#32) = 1#64 := by decide
theorem three32 : (BitVec.signExtend 64 3#32) = 3#64 := by decide

theorem toNat_size_sub_one {n : Nat} (h0 : 0 < n) (h : n < 2 ^ 64) :
    (BitVec.ofNat 64 n - 1#64).toNat = n - 1 := by
  rw [BitVec.toNat_sub, ofNat_toNat_lt h]
  have : (1#64).toNat = 1 := by decide
  rw [this, show 2 ^ 64 - 1 + n = (n - 1) + 2 ^ 64 by omega, Nat.add_mod_right, Nat.mod_eq_of_lt (by omega)]

theorem gen_home_lt {n : Nat} (val : BitVec 64) (h0 : 0 < n) (h : n < 2 ^ 64) :
    (sizeMod (BitVec.ofNat 64 n) val).toNat < n := by
  unfold sizeMod
  rw [one32, BitVec.toNat_and, toNat_size_sub_one h0 h]
  have := @Nat.and_le_right val.toNat (n - 1)
  omega

theorem gen_probe_eq {n : Nat} (h : n < 2 ^ 64) : (probeLen (BitVec.ofNat 64 n)).toNat = n / 2 := by
  unfold probeLen
  have : (1#32).toNat = 1 := by decide
  rw [this, BitVec.toNat_ushiftRight, ofNat_toNat_lt h, Nat.shiftRight_eq_div_pow]

theorem gen_minSize {len : Nat} (h : len < 2 ^ 62) : (minSize (BitVec.ofNat 64 len)).toNat = len + len / 3 := by
  unfold minSize
  rw [three32, BitVec.toNat_add, BitVec.toNat_udiv, ofNat_toNat_lt (show len < 2 ^ 64 by omega)]
  have : (3#64).toNat = 3 := by decide
  rw [this, Nat.mod_eq_of_lt (by omega)]

theorem gen_dist {k : Nat} (hk : k ≤ 62) {a b : Nat} (ha : a < 2 ^ k) (hb : b < 2 ^ k) :
    ((BitVec.ofNat 64 a - BitVec.ofNat 64 b) &&& (BitVec.ofNat 64 (2 ^ k) - 1#64)).toNat = (a + 2 ^ k - b) % 2 ^ k := by
  have hp : 2 ^ k < 2 ^ 64 := Nat.pow_lt_pow_right (by omega) (by omega)
  have hpos : 0 < 2 ^ k := Nat.two_pow_pos k
  rw [BitVec.toNat_and, toNat_size_sub_one hpos hp, Nat.and_two_pow_sub_one_eq_mod,
      BitVec.toNat_sub, ofNat_toNat_lt (show a < 2 ^ 64 by omega), ofNat_toNat_lt (show b < 2 ^ 64 by omega)]
  have hdvd : 2 ^ k ∣ 2 ^ 64 := Nat.pow_dvd_pow 2 (by omega)
  rw [Nat.mod_mod_of_dvd _ hdvd]
  obtain ⟨q, hq⟩ := hdvd
  rw [show 2 ^ 64 - b + a = (a + 2 ^ k - b) + 2 ^ k * (q - 1) by
        rw [hq, Nat.mul_sub, Nat.mul_one]
        omega]
  exact Nat.add_mul_mod_self_left _ _ _

theorem gen_shift_eq {n hole idx home : Nat} (hp : Pow2 n) (hle : n ≤ 2 ^ 62) (h1 : hole < n) (h2 : idx < n)
    (h3 : home < n) :
    shiftDec (BitVec.ofNat 64 n) (BitVec.ofNat 64 hole) (BitVec.ofNat 64 idx) (BitVec.ofNat 64 home) =
      decide ((idx + n - hole) % n ≤ (idx + n - home) % n) := by
  obtain ⟨k, rfl⟩ := hp
  have hk : k ≤ 62 := (Nat.pow_le_pow_iff_right (by decide)).mp hle
  unfold shiftDec
  rw [one32, BitVec.ule_eq_decide, gen_dist hk h2 h1, gen_dist hk h2 h3]

theorem genParams_good {κ : Type} (bytes : κ → List (BitVec 8)) : (genParams bytes).Good := by
  have hmax : genMaxSize < 2 ^ 62 := by decide
  constructor
  · intro n k h0 hle
    exact gen_home_lt _ h0 (by simp only [genParams] at hle; omega)
  · intro n hle
    exact gen_probe_eq (by simp only [genParams] at hle; omega)
  · intro n len hge hle hlt hng
    simp only [genParams] at hge hle hng
    rw [gen_minSize (by omega)] at hng
    have : sizeDefault = 256 := by decide
    omega
  · intro n hole idx home hp hle h1 h2 h3
    exact gen_shift_eq hp (Nat.le_trans hle (Nat.le_of_lt hmax)) h1 h2 h3
  · exact ⟨8, by show sizeDefault = 2 ^ 8; decide⟩
  · show 2 ≤ sizeDefault; decide
  · show sizeDefault ≤ genMaxSize; decide

end Lm.Struct.Map
