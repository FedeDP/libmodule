import Lm.Struct.Map
/-!
# The table of the map model and its probing invariant (property C05)

The invariant is `TWF` (table) / `WF` (map).  `clear_elem` gets one induction over its loop (`cleared_ind`), used for
the number of entries, for the entries of a window and, with the table seen from a free slot as an ordinary array
(`Lin`), for the invariant.  Only the last part (probing: lookup, insertion, `hashmap_rehash`) compares keys.
-/
namespace Lm.Struct.Map
variable {κ : Type}

theorem add_mod_cancel {n a b g : Nat} (h : (a + g) % n = (b + g) % n) : a % n = b % n := by
  rw [Nat.mod_eq_mod_iff] at h ⊢
  obtain ⟨k₁, k₂, h⟩ := h
  exact ⟨k₁, k₂, by omega⟩

theorem win_inj {n x y : Nat} (h1 : x < y + n) (h2 : y < x + n) : x % n = y % n ↔ x = y := by
  refine ⟨fun h => ?_, fun h => h ▸ rfl⟩
  have hx := Nat.sub_mod_eq_zero_of_mod_eq h
  have hy := Nat.sub_mod_eq_zero_of_mod_eq h.symm
  rw [Nat.mod_eq_of_lt (by omega)] at hx hy
  omega

theorem exists_rep {n j : Nat} (i : Nat) (hj : j < n) (hne : j ≠ i % n) : ∃ q, i < q ∧ q < i + n ∧ q % n = j := by
  obtain ⟨b, hb⟩ : n ∣ i - i % n := Nat.dvd_sub_mod i
  have := Nat.mod_le i n
  have := Nat.mod_lt i (show 0 < n by omega)
  rcases Nat.lt_or_ge (i % n) j with hlt | hge
  · exact ⟨i - i % n + j, by omega, by omega, by rw [hb, Nat.mul_add_mod, Nat.mod_eq_of_lt hj]⟩
  · exact ⟨n + (i - i % n + j), by omega, by omega,
      by rw [hb, Nat.add_mod_left, Nat.mul_add_mod, Nat.mod_eq_of_lt hj]⟩

theorem dist_of_offset {n hm i d : Nat} (hhm : hm < n) (hd : d < n) (h : (hm + d) % n = i % n) :
    (i % n + n - hm) % n = d := by
  rw [← h]
  rcases Nat.lt_or_ge (hm + d) n with hlt | hge
  · rw [Nat.mod_eq_of_lt hlt, show hm + d + n - hm = d + n by omega, Nat.add_mod_right, Nat.mod_eq_of_lt hd]
  · rw [Nat.mod_eq_sub_mod hge, Nat.mod_eq_of_lt (show hm + d - n < n by omega),
      show hm + d - n + n - hm = d by omega, Nat.mod_eq_of_lt hd]

theorem dist_unreduced {n h i : Nat} (hlt : h < i) (hin : i < h + n) : (i % n + n - h % n) % n = i - h := by
  apply dist_of_offset (Nat.mod_lt h (show 0 < n by omega)) (show i - h < n by omega)
  rw [Nat.mod_add_mod]; congr 1; omega

theorem slot_mod (c : List (Cell κ)) (i : Nat) : slot c (i % c.length) = slot c i := by
  unfold slot; rw [Nat.mod_mod]

theorem slot_congr {c : List (Cell κ)} {i j : Nat} (h : i % c.length = j % c.length) : slot c i = slot c j := by
  unfold slot; rw [h]

theorem slot_lt {c : List (Cell κ)} {i : Nat} (h : i < c.length) : slot c i = (c[i]?).join := by
  unfold slot; rw [Nat.mod_eq_of_lt h]

theorem slot_eq_getElem {c : List (Cell κ)} (i : Nat) (hn : 0 < c.length) :
    slot c i = c[i % c.length]'(Nat.mod_lt _ hn) := by
  unfold slot; rw [List.getElem?_eq_getElem (Nat.mod_lt _ hn)]; rfl

theorem slot_set {c : List (Cell κ)} {n : Nat} (hc : c.length = n) (hn : 0 < n) (i j : Nat) (x : Cell κ) :
    slot (c.set (i % n) x) j = if i % n = j % n then x else slot c j := by
  subst hc
  simp only [slot, List.length_set, List.getElem?_set, Nat.mod_lt _ hn, if_true]
  split <;> rfl

theorem slot_set_some_ne_none {c : List (Cell κ)} (i : Nat) {x : Nat} (e : κ × Nat) (hn : 0 < c.length)
    (h : slot c x ≠ none) : slot (c.set (i % c.length) (some e)) x ≠ none := by
  rw [slot_set rfl hn]; split
  · simp
  · exact h

theorem pos_of_slot {c : List (Cell κ)} {p : Nat} {e : κ × Nat} (h : slot c p = some e) : 0 < c.length := by
  apply Nat.pos_of_ne_zero
  intro h0
  simp [slot, h0] at h

def Has (c : List (Cell κ)) (e : κ × Nat) : Prop := ∃ j, j < c.length ∧ slot c j = some e

theorem Has.of_slot {c : List (Cell κ)} {p : Nat} {e : κ × Nat} (h : slot c p = some e) : Has c e :=
  ⟨p % c.length, Nat.mod_lt _ (pos_of_slot h), by rw [slot_mod]; exact h⟩

theorem has_iff_mem (c : List (Cell κ)) (e : κ × Nat) : Has c e ↔ e ∈ c.filterMap id := by
  constructor
  · rintro ⟨j, hj, hs⟩
    rw [slot_lt hj, List.getElem?_eq_getElem hj] at hs
    apply List.mem_filterMap.mpr
    refine ⟨c[j], List.getElem_mem hj, ?_⟩
    simpa using hs
  · intro h
    obtain ⟨x, hx, hxe⟩ := List.mem_filterMap.mp h
    simp only [id] at hxe
    obtain ⟨j, hj, hjx⟩ := List.getElem_of_mem hx
    refine ⟨j, hj, ?_⟩
    rw [slot_lt hj, List.getElem?_eq_getElem hj, hjx, hxe]; rfl

theorem has_insert {c : List (Cell κ)} {i : Nat} (hn : 0 < c.length) (hnone : slot c i = none) (e e' : κ × Nat) :
    Has (c.set (i % c.length) (some e)) e' ↔ Has c e' ∨ e' = e := by
  unfold Has
  simp only [List.length_set]
  constructor
  · rintro ⟨j, hj, hs⟩
    rw [slot_set rfl hn] at hs
    split at hs
    · cases hs; right; rfl
    · left; exact ⟨j, hj, hs⟩
  · rintro (⟨j, hj, hs⟩ | rfl)
    · refine ⟨j, hj, ?_⟩
      rw [slot_set rfl hn]
      have : i % c.length ≠ j % c.length := by
        intro heq; rw [slot_congr heq, hs] at hnone; cases hnone
      simp [this, hs]
    · exact ⟨i % c.length, Nat.mod_lt _ hn, by rw [slot_set rfl hn]; simp⟩

def occ (c : List (Cell κ)) : Nat := (c.filterMap id).length

theorem occ_cons (x : Cell κ) (c : List (Cell κ)) : occ (x :: c) = occ c + (if x.isSome then 1 else 0) := by
  cases x <;> simp [occ]

theorem occ_eq_zero_iff (c : List (Cell κ)) : occ c = 0 ↔ ∀ e, ¬ Has c e := by
  unfold occ
  rw [List.length_eq_zero_iff, List.eq_nil_iff_forall_not_mem]
  exact forall_congr' fun e => not_congr (has_iff_mem c e).symm

theorem occ_set {c : List (Cell κ)} {i : Nat} (x : Cell κ) (h : i < c.length) :
    occ (c.set i x) + (if (c[i]).isSome then 1 else 0) = occ c + (if x.isSome then 1 else 0) := by
  induction c generalizing i with
  | nil => simp at h
  | cons y ys ih =>
    cases i with
    | zero => simp only [List.set_cons_zero, occ_cons, List.getElem_cons_zero]; omega
    | succ j =>
      simp only [List.length_cons, Nat.add_lt_add_iff_right] at h
      have := ih h
      simp only [List.set_cons_succ, occ_cons, List.getElem_cons_succ]
      omega

theorem occ_set_slot {c : List (Cell κ)} (i : Nat) (x : Cell κ) (hn : 0 < c.length) :
    occ (c.set (i % c.length) x) + (if (slot c i).isSome then 1 else 0) = occ c + (if x.isSome then 1 else 0) := by
  rw [slot_eq_getElem i hn]; exact occ_set x (Nat.mod_lt _ hn)

theorem occ_insert {c : List (Cell κ)} {i : Nat} (hn : 0 < c.length) (hnone : slot c i = none) (e : κ × Nat) :
    occ (c.set (i % c.length) (some e)) = occ c + 1 := by
  have := occ_set_slot i (some e) hn
  rw [hnone] at this; simpa using this

variable [DecidableEq κ] in
theorem occ_le_length (c : List (Cell κ)) : occ c ≤ c.length :=
  List.length_filterMap_le id c

theorem firstEmpty_spec {c : List (Cell κ)} (h : occ c < c.length) :
    firstEmpty c < c.length ∧ slot c (firstEmpty c) = none := by
  induction c with
  | nil => simp at h
  | cons x xs ih =>
    cases x with
    | none => exact ⟨by simp [firstEmpty], by simp [firstEmpty, slot]⟩
    | some e =>
      have : occ xs < xs.length := by simp [occ_cons] at h; omega
      obtain ⟨h1, h2⟩ := ih this
      rw [slot_lt h1] at h2
      refine ⟨by simp only [firstEmpty, List.length_cons]; omega, ?_⟩
      rw [slot_lt (by simp only [firstEmpty, List.length_cons]; omega)]
      simpa [firstEmpty] using h2

def Pow2 (n : Nat) : Prop := ∃ k, n = 2 ^ k

theorem pow2_double {n : Nat} (h : Pow2 n) : Pow2 (2 * n) := by
  obtain ⟨k, hk⟩ := h
  exact ⟨k + 1, by rw [hk, Nat.pow_succ]; omega⟩

/-- what the proofs need to know about the pure fragments of `map.c` -/
structure Params.Good (P : Params κ) : Prop where
  home_lt : ∀ n k, 0 < n → n ≤ P.maxSize → P.home n k < n
  probe_eq : ∀ n, n ≤ P.maxSize → P.probeLen n = n / 2
  /-- load rule: a table that is not grown before an insertion still has a free slot afterwards -/
  load_ok : ∀ n len, P.sizeDefault ≤ n → n ≤ P.maxSize → len < n → ¬ (n ≤ P.minSize len) → len + 1 < n
  /-- the back-shift decision compares circular distances: move iff `dist home idx ≥ dist hole idx` -/
  shift_eq : ∀ n hole idx home, Pow2 n → n ≤ P.maxSize → hole < n → idx < n → home < n →
    P.shift n hole idx home = decide ((idx + n - hole) % n ≤ (idx + n - home) % n)
  default_pow2 : Pow2 P.sizeDefault
  default_ge : 2 ≤ P.sizeDefault
  default_le : P.sizeDefault ≤ P.maxSize

/-- table level: (W1) no empty slot between the home of an entry and its slot, (W3) fewer than
`size/2` steps from home, (W2) keys unique -/
structure TWF (P : Params κ) (c : List (Cell κ)) : Prop where
  run : ∀ j k v, j < c.length → slot c j = some (k, v) →
    ∃ d, d < c.length / 2 ∧ (P.home c.length k + d) % c.length = j ∧
      ∀ e, e < d → slot c (P.home c.length k + e) ≠ none
  uniq : ∀ i j k v w, i < c.length → j < c.length → slot c i = some (k, v) → slot c j = some (k, w) → i = j

structure SizeOk (P : Params κ) (n : Nat) : Prop where
  pow2 : Pow2 n
  ge : P.sizeDefault ≤ n
  le : n ≤ P.maxSize

/-- map level: `TWF` + (W4) `length` counts the occupied slots and leaves one slot free -/
structure WF (P : Params κ) (m : Map κ) : Prop where
  size : SizeOk P m.size
  tbl : TWF P m.cells
  len : m.length = occ m.cells
  room : m.length < m.size

section
variable {P : Params κ} {c : List (Cell κ)} {m : Map κ}

theorem SizeOk.pos (hP : P.Good) {n : Nat} (h : SizeOk P n) : 2 ≤ n := by
  have := hP.default_ge; have := h.ge; omega

theorem WF.pos (hP : P.Good) (hwf : WF P m) : 0 < m.cells.length := by
  have : 2 ≤ m.cells.length := hwf.size.pos hP
  omega

theorem WF.occ_lt (hwf : WF P m) : occ m.cells < m.cells.length := by
  have : m.length < m.cells.length := hwf.room
  have := hwf.len
  omega

theorem no_entries_of_length_zero (hwf : WF P m) (h0 : m.length = 0) : ∀ e, ¬ Has m.cells e :=
  (occ_eq_zero_iff _).mp (hwf.len ▸ h0)

def Uniq (c : List (Cell κ)) : Prop :=
  ∀ p q k v w, slot c p = some (k, v) → slot c q = some (k, w) → p % c.length = q % c.length

theorem TWF.uniq_pos (t : TWF P c) : Uniq c := by
  intro p q k v w hp hq
  have hn := pos_of_slot hp
  exact t.uniq _ _ k v w (Nat.mod_lt _ hn) (Nat.mod_lt _ hn) (by rw [slot_mod]; exact hp) (by rw [slot_mod]; exact hq)

theorem TWF.key_ne (h : TWF P c) {p q : Nat} {k k' : κ} {v w : Nat}
    (hpq : p < q) (hq : q < p + c.length) (hp : slot c p = some (k, v)) (hs : slot c q = some (k', w)) : k' ≠ k := by
  rintro rfl
  have := (win_inj (by omega) (by omega)).mp (h.uniq_pos p q _ _ _ hp hs)
  omega

end

/-! ## Windows

`slot` reduces its index, so a slot has many positions.  Among fewer than `n + 1` consecutive positions
each slot occurs once (`win_inj`), and that is all the modular arithmetic the back-shift and the
iteration need: inside such a window positions are compared with `=` and `<`. -/

def InWin (c : List (Cell κ)) (p stop : Nat) (e : κ × Nat) : Prop := ∃ q, p ≤ q ∧ q < stop ∧ slot c q = some e

theorem window_full (c : List (Cell κ)) (b : Nat) (e : κ × Nat) : InWin c b (b + c.length) e ↔ Has c e := by
  constructor
  · rintro ⟨q, _, _, hs⟩; exact Has.of_slot hs
  · rintro ⟨j, hj, hs⟩
    by_cases hjb : j = b % c.length
    · exact ⟨b, Nat.le_refl _, by omega, by rw [← slot_mod, ← hjb]; exact hs⟩
    · obtain ⟨q, h1, h2, h3⟩ := exists_rep b hj hjb
      exact ⟨q, by omega, h2, by rw [← slot_mod, h3]; exact hs⟩

theorem exists_ahead {c : List (Cell κ)} {i : Nat} {e : κ × Nat} (hs : slot c i = some e) (hocc : occ c < c.length) :
    ∃ q, i < q ∧ q < i + c.length ∧ slot c q = none := by
  obtain ⟨hj, hjn⟩ := firstEmpty_spec hocc
  have hne : firstEmpty c ≠ i % c.length := by
    intro heq; rw [← slot_mod, ← heq, hjn] at hs; cases hs
  obtain ⟨q, h1, h2, h3⟩ := exists_rep i hj hne
  exact ⟨q, h1, h2, by rw [← slot_mod, h3]; exact hjn⟩

/-- one move of the back-shift: the entry `e` at `i` goes to the hole `h` -/
def move (n : Nat) (c : List (Cell κ)) (h i : Nat) (e : κ × Nat) : List (Cell κ) :=
  (c.set (h % n) (some e)).set (i % n) none

theorem length_move (n : Nat) (c : List (Cell κ)) (h i : Nat) (e : κ × Nat) : (move n c h i e).length = c.length := by
  simp [move]

section
variable {n h i : Nat} {c : List (Cell κ)}

theorem slot_move (hc : c.length = n) (hn : 0 < n) (h i j : Nat) (e : κ × Nat) :
    slot (move n c h i e) j = if i % n = j % n then none else if h % n = j % n then some e else slot c j := by
  unfold move
  rw [slot_set (by simp [hc]) hn, slot_set hc hn]

theorem slot_move_win (e : κ × Nat) (hc : c.length = n) (hhi : h < i) {q : Nat} (h1 : i < q + n) (h2 : q < h + n) :
    slot (move n c h i e) q = if i = q then none else if h = q then some e else slot c q := by
  simp only [slot_move hc (show 0 < n by omega), win_inj h1 (show q < i + n by omega),
    win_inj (show h < q + n by omega) h2]

theorem slot_clear_win (hc : c.length = n) {q : Nat} (h1 : i < q + n) (h2 : q < i + n) :
    slot (c.set (i % n) none) q = if i = q then none else slot c q := by
  simp only [slot_set hc (show 0 < n by omega), win_inj h1 h2]

end

/-- the table after `clear_elem` on slot `i` -/
def cleared (P : Params κ) (c : List (Cell κ)) (i : Nat) : List (Cell κ) :=
  backshift P c.length (c.length - 1) (c.set (i % c.length) none) i (i + 1)

theorem length_backshift (P : Params κ) (n : Nat) : ∀ (fuel : Nat) (c : List (Cell κ)) (h i : Nat),
    (backshift P n fuel c h i).length = c.length := by
  intro fuel
  induction fuel with
  | zero => intro c h i; rfl
  | succ fuel ih =>
    intro c h i
    unfold backshift
    split
    · rfl
    · split
      · rw [ih]; simp
      · rw [ih]

theorem length_cleared (P : Params κ) (c : List (Cell κ)) (i : Nat) : (cleared P c i).length = c.length := by
  unfold cleared; rw [length_backshift]; simp

theorem backshift_congr (P : Params κ) (n : Nat) : ∀ (fuel : Nat) (c : List (Cell κ)) (h h' i i' : Nat),
    c.length = n → h % n = h' % n → i % n = i' % n →
    backshift P n fuel c h i = backshift P n fuel c h' i' := by
  intro fuel
  induction fuel with
  | zero => intro c h h' i i' _ _ _; rfl
  | succ fuel ih =>
    intro c h h' i i' hc hh hi
    unfold backshift
    have hs : slot c i = slot c i' := slot_congr (by rw [hc]; exact hi)
    rw [hs, hh, hi]
    have hi1 : (i + 1) % n = (i' + 1) % n := Nat.add_mod_eq_add_mod_right 1 hi
    split
    · rfl
    · split
      · exact ih _ i i' (i + 1) (i' + 1) (by simp [hc]) hi hi1
      · exact ih c h h' (i + 1) (i' + 1) hc hh hi1

theorem cleared_congr (P : Params κ) {c : List (Cell κ)} {i i' : Nat} (h : i % c.length = i' % c.length) :
    cleared P c i = cleared P c i' := by
  unfold cleared
  rw [h, backshift_congr P c.length _ _ i i' (i + 1) (i' + 1) (by simp) h (Nat.add_mod_eq_add_mod_right 1 h)]

/-- The one induction over the loop of `clear_elem` on the entry at `i`, with a free slot `stop` ahead:
what holds once the entry is gone (`Q`, of the table, the hole and the index) and is kept by the skips
and by the moves holds when the loop ends, which it does at an empty slot. -/
theorem cleared_ind {P : Params κ} {c : List (Cell κ)} {i stop : Nat} (h1 : i < stop) (h2 : stop < i + c.length)
    (hstop : slot c stop = none) (Q : List (Cell κ) → Nat → Nat → Prop) (R : List (Cell κ) → Prop)
    (hskip : ∀ t h j k v, i ≤ h → h < j → j < stop → slot t j = some (k, v) →
      P.shift c.length (h % c.length) (j % c.length) (P.home c.length k) = false → Q t h j → Q t h (j + 1))
    (hmove : ∀ t h j k v, t.length = c.length → i ≤ h → h < j → j < stop → slot t h = none → slot t j = some (k, v) →
      P.shift c.length (h % c.length) (j % c.length) (P.home c.length k) = true → Q t h j →
      Q (move c.length t h j (k, v)) j (j + 1))
    (hdone : ∀ t h j, t.length = c.length → h < j → slot t j = none → slot t stop = none → Q t h j → R t)
    (h0 : Q (c.set (i % c.length) none) i (i + 1)) : R (cleared P c i) := by
  have key : ∀ (fuel : Nat) (t : List (Cell κ)) (h j : Nat), t.length = c.length → i ≤ h → h < j → j ≤ stop →
      stop ≤ j + fuel → slot t h = none → slot t stop = none → Q t h j → R (backshift P c.length fuel t h j) := by
    intro fuel
    induction fuel with
    | zero =>
      intro t h j ht _ hhj hjs hf _ hs hq
      exact hdone t h j ht hhj (by rw [show j = stop by omega]; exact hs) hs hq
    | succ fuel ih =>
      intro t h j ht hih hhj hjs hf hh hs hq
      unfold backshift
      split
      · exact hdone t h j ht hhj ‹_› hs hq
      · rename_i k v hsj
        have hlt : j < stop := by
          apply Nat.lt_of_le_of_ne hjs
          rintro rfl; rw [hs] at hsj; cases hsj
        split
        · apply ih (move c.length t h j (k, v)) j (j + 1) (by rw [length_move, ht]) (by omega) (by omega) (by omega)
            (by omega)
          · rw [slot_move_win _ ht hhj (by omega) (by omega), if_pos rfl]
          · rw [slot_move_win _ ht hhj (by omega) (by omega), if_neg (by omega), if_neg (by omega), hs]
          · exact hmove t h j k v ht hih hhj hlt hh hsj ‹_› hq
        · exact ih t h (j + 1) ht hih (by omega) (by omega) (by omega) hh hs
            (hskip t h j k v hih hhj hlt hsj (Bool.eq_false_iff.mpr ‹_›) hq)
  apply key _ _ i (i + 1) (by simp) (Nat.le_refl _) (by omega) (by omega) (by omega) _ _ h0
  · rw [slot_clear_win rfl (by omega) (by omega), if_pos rfl]
  · rw [slot_clear_win rfl (by omega) (by omega), if_neg (by omega), hstop]

section
variable {P : Params κ} {c : List (Cell κ)} {i : Nat}

theorem occ_cleared (P : Params κ) {e : κ × Nat} (hs : slot c i = some e) (hocc : occ c < c.length) :
    occ (cleared P c i) + 1 = occ c := by
  obtain ⟨stop, h1, h2, h3⟩ := exists_ahead hs hocc
  have hn : 0 < c.length := by omega
  apply cleared_ind h1 h2 h3 (fun t _ _ => occ t + 1 = occ c) (fun t => occ t + 1 = occ c)
    (fun _ _ _ _ _ _ _ _ _ _ q => q)
  · intro t h j k v ht _ hhj hj hh hsj _ hq
    -- filling the empty hole adds an entry, emptying the slot at `j` takes one away
    have hne : h % t.length ≠ j % t.length := by rw [ht, Ne, win_inj (by omega) (by omega)]; omega
    have e1 := occ_set_slot h (some (k, v)) (show 0 < t.length by omega)
    have e2 := occ_set_slot (c := t.set (h % t.length) (some (k, v))) j none (by simp; omega)
    rw [List.length_set, slot_set rfl (by omega), if_neg hne, hsj] at e2
    rw [hh] at e1
    unfold move; rw [← ht]; omega
  · exact fun _ _ _ _ _ _ _ q => q
  · have := occ_set_slot i none hn
    rw [hs] at this
    simpa using this

theorem cleared_window (P : Params κ) {stop w : Nat} (h1 : i < stop) (h2 : stop < i + c.length) (h3 : stop ≤ w)
    (h4 : w ≤ i + c.length) (hstop : slot c stop = none) :
    slot (cleared P c i) stop = none ∧ ∀ e', InWin (cleared P c i) i w e' ↔ InWin c (i + 1) w e' := by
  apply cleared_ind h1 h2 hstop (fun t _ _ => ∀ e', InWin t i w e' ↔ InWin c (i + 1) w e')
    (fun t => slot t stop = none ∧ ∀ e', InWin t i w e' ↔ InWin c (i + 1) w e')
    (fun _ _ _ _ _ _ _ _ _ _ q => q)
  · intro t h j k v ht hih hhj hj hh hsj _ hq e'
    rw [← hq e']
    have hm : ∀ q, i ≤ q → q < w → slot (move c.length t h j (k, v)) q =
        if j = q then none else if h = q then some (k, v) else slot t q :=
      fun q _ _ => slot_move_win _ ht hhj (by omega) (by omega)
    constructor
    · rintro ⟨q, hq1, hq2, hq3⟩
      rw [hm q hq1 hq2] at hq3
      split at hq3
      · cases hq3
      · split at hq3
        · cases hq3; exact ⟨j, by omega, by omega, hsj⟩
        · exact ⟨q, hq1, hq2, hq3⟩
    · rintro ⟨q, hq1, hq2, hq3⟩
      by_cases hqj : j = q
      · subst hqj; rw [hsj] at hq3; cases hq3
        exact ⟨h, hih, by omega, by rw [hm h hih (by omega), if_neg (by omega), if_pos rfl]⟩
      · refine ⟨q, hq1, hq2, ?_⟩
        rw [hm q hq1 hq2, if_neg hqj, if_neg (by rintro rfl; rw [hh] at hq3; cases hq3), hq3]
  · exact fun t _ _ _ _ _ hs q => ⟨hs, q⟩
  · intro e'
    have hm : ∀ q, i ≤ q → q < w → slot (c.set (i % c.length) none) q = if i = q then none else slot c q :=
      fun q _ _ => slot_clear_win rfl (by omega) (by omega)
    constructor
    · rintro ⟨q, hq1, hq2, hq3⟩
      rw [hm q hq1 hq2] at hq3
      split at hq3
      · cases hq3
      · exact ⟨q, by omega, hq2, hq3⟩
    · rintro ⟨q, hq1, hq2, hq3⟩
      exact ⟨q, by omega, hq2, by rw [hm q (by omega) hq2, if_neg (by omega), hq3]⟩

theorem mem_cleared (h : TWF P c) {k : κ} {v : Nat} (hs : slot c i = some (k, v)) (hocc : occ c < c.length)
    (e' : κ × Nat) : Has (cleared P c i) e' ↔ (Has c e' ∧ e'.1 ≠ k) := by
  obtain ⟨stop, h1, h2, h3⟩ := exists_ahead hs hocc
  rw [← window_full _ i, length_cleared, (cleared_window P h1 h2 (by omega) (Nat.le_refl _) h3).2 e']
  constructor
  · rintro ⟨q, hq1, hq2, hq3⟩
    exact ⟨Has.of_slot hq3, h.key_ne hq1 hq2 hs hq3⟩
  · rintro ⟨hhas, hk⟩
    obtain ⟨q, hq1, hq2, hq3⟩ := (window_full c i e').mpr hhas
    refine ⟨q, Nat.lt_of_le_of_ne hq1 ?_, hq2, hq3⟩
    rintro rfl; rw [hs] at hq3; cases hq3; exact hk rfl

end

/-! ### The table seen from an empty slot; the back-shift restores the probing invariant

`s` is an empty slot; the positions `s < p < s + n` stand for the other slots, once each, and no run
from a home to its entry passes `s`: in this window the table is an ordinary array.  `Run`: the entry
with key `k` at `p` has its home at the position `a ≤ p` of the window, fewer than `n/2` steps back,
and `[a, p)` is occupied except possibly at `h`.  `Lin`: every entry of the window has such a run; for
the entries before `i` (those the back-shift is done with) the hole `h` is not in the run.  With
`h = s` there is no hole and `Lin` is (W1) + (W3). -/

def Run (P : Params κ) (n : Nat) (c : List (Cell κ)) (s h p : Nat) (k : κ) (a : Nat) : Prop :=
  s < a ∧ a ≤ p ∧ p < a + n / 2 ∧ a % n = P.home n k % n ∧ ∀ q, a ≤ q → q < p → q ≠ h → slot c q ≠ none

def Lin (P : Params κ) (n : Nat) (c : List (Cell κ)) (s h i : Nat) : Prop :=
  ∀ p k v, s < p → p < s + n → slot c p = some (k, v) → ∃ a, Run P n c s h p k a ∧ (p < i → h < p → h < a)

section
variable {P : Params κ} {n s h i a : Nat} {c : List (Cell κ)} {k : κ} {v : Nat}

theorem TWF.lin (t : TWF P c) (hs : slot c s = none) : Lin P c.length c s s s := by
  intro p k v hp1 hp2 hsp
  have hn := pos_of_slot hsp
  obtain ⟨d, hd, hpos, hrun⟩ := t.run (p % c.length) k v (Nat.mod_lt _ hn) (by rw [slot_mod]; exact hsp)
  -- the run does not reach back to `s`, which is empty
  have hds : d < p - s := by
    apply Nat.lt_of_not_le
    intro hge
    apply hrun (d - (p - s)) (by omega)
    rw [slot_congr (j := s) (add_mod_cancel (g := p - s) _), hs]
    rw [show P.home c.length k + (d - (p - s)) + (p - s) = P.home c.length k + d by omega, hpos]
    congr 1; omega
  have ha : (p - d) % c.length = P.home c.length k % c.length := by
    apply add_mod_cancel (g := d)
    rw [hpos]; congr 1; omega
  refine ⟨p - d, ⟨by omega, by omega, by omega, ha, fun q hq1 hq2 _ => ?_⟩, fun _ _ => by omega⟩
  rw [slot_congr (j := P.home c.length k + (q - (p - d)))]
  · exact hrun _ (by omega)
  · rw [← Nat.add_mod_eq_add_mod_right _ ha]; congr 1; omega

theorem TWF.of_lin (hs : slot c s = none) (l : Lin P c.length c s s s) (u : Uniq c) : TWF P c := by
  constructor
  · intro j k v hj hsj
    have hne : j ≠ s % c.length := by rintro rfl; rw [slot_mod, hs] at hsj; cases hsj
    obtain ⟨p, hp1, hp2, hpj⟩ := exists_rep s hj hne
    obtain ⟨a, ⟨_, ha2, ha3, ha4, hrun⟩, _⟩ := l p k v hp1 hp2 (by rw [← slot_mod, hpj]; exact hsj)
    have hmod : ∀ e, (P.home c.length k + e) % c.length = (a + e) % c.length :=
      fun e => Nat.add_mod_eq_add_mod_right e ha4.symm
    refine ⟨p - a, by omega, by rw [hmod, ← hpj]; congr 1; omega, fun e he => ?_⟩
    rw [slot_congr (hmod e)]
    exact hrun _ (by omega) (by omega) (by omega)
  · intro a b k v w ha hb hsa hsb
    have := u a b k v w hsa hsb
    rwa [Nat.mod_eq_of_lt ha, Nat.mod_eq_of_lt hb] at this

theorem Uniq.clear (u : Uniq c) (hn : 0 < c.length) : Uniq (c.set (i % c.length) none) := by
  intro p q k v w hp hq
  rw [slot_set rfl hn] at hp hq
  split at hp
  · cases hp
  · split at hq
    · cases hq
    · simpa using u p q k v w hp hq

theorem Uniq.move (u : Uniq c) (hc : c.length = n) (hn : 0 < n) (hsi : slot c i = some (k, v)) :
    Uniq (move n c h i (k, v)) := by
  intro p q k' v' w' hp hq
  rw [length_move, hc]
  rw [slot_move hc hn] at hp hq
  split at hp
  · cases hp
  · split at hq
    · cases hq
    · rename_i hip hiq
      subst hc
      split at hp <;> split at hq
      · omega
      · cases hp; exact absurd (u i q _ _ _ hsi hq) hiq
      · cases hq; exact absurd (u i p _ _ _ hsi hp) hip
      · exact u p q k' v' w' hp hq

/-- emptying the slot at `i` makes it the hole -/
theorem Lin.clear (l : Lin P n c s s s) (hc : c.length = n) (hsi : s < i) (hi : i < s + n) :
    Lin P n (c.set (i % n) none) s i (i + 1) := by
  intro p k v hp1 hp2 hsp
  rw [slot_clear_win hc (by omega) (by omega)] at hsp
  split at hsp
  · cases hsp
  · obtain ⟨a, ⟨h1, h2, h3, h4, hrun⟩, _⟩ := l p k v hp1 hp2 hsp
    refine ⟨a, ⟨h1, h2, h3, h4, fun q hq1 hq2 hqi => ?_⟩, by omega⟩
    rw [slot_clear_win hc (by omega) (by omega), if_neg (Ne.symm hqi)]
    exact hrun q hq1 hq2 (by omega)

/-- the entry at `i` stays: its home is after the hole -/
theorem Lin.skip (l : Lin P n c s h i) (hsi : slot c i = some (k, v)) (r : Run P n c s h i k a) (ha : h < a) :
    Lin P n c s h (i + 1) := by
  intro p k' v' hp1 hp2 hsp
  by_cases hpi : p = i
  · subst hpi; rw [hsi] at hsp; cases hsp
    exact ⟨a, r, fun _ _ => ha⟩
  · obtain ⟨a', r', hb⟩ := l p k' v' hp1 hp2 hsp
    exact ⟨a', r', fun _ => hb (by omega)⟩

/-- the entry at `i` moves into the hole, which its run contains; `i` is the new hole -/
theorem Lin.move (l : Lin P n c s h i) (hc : c.length = n) (hh : s < h) (hhi : h < i) (hi : i < s + n)
    (r : Run P n c s h i k a) (ha : a ≤ h) : Lin P n (move n c h i (k, v)) s i (i + 1) := by
  intro p k' v' hp1 hp2 hsp
  obtain ⟨r1, _, r3, r4, r5⟩ := r
  rw [slot_move_win _ hc hhi (by omega) (by omega)] at hsp
  split at hsp
  · cases hsp
  · split at hsp
    · rename_i hhp; subst hhp; cases hsp
      refine ⟨a, ⟨r1, ha, by omega, r4, fun q hq1 hq2 _ => ?_⟩, by omega⟩
      rw [slot_move_win _ hc hhi (by omega) (by omega), if_neg (by omega), if_neg (by omega)]
      exact r5 q hq1 (by omega) (by omega)
    · obtain ⟨a', ⟨h1, h2, h3, h4, hrun⟩, _⟩ := l p k' v' hp1 hp2 hsp
      refine ⟨a', ⟨h1, h2, h3, h4, fun q hq1 hq2 hqi => ?_⟩, by omega⟩
      rw [slot_move_win _ hc hhi (by omega) (by omega), if_neg (Ne.symm hqi)]
      split
      · exact Option.some_ne_none _
      · exact hrun q hq1 hq2 (Ne.symm ‹_›)

/-- the loop ends at an empty slot: no run contains the hole -/
theorem Lin.done (l : Lin P n c s h i) (hhi : h < i) (hi : slot c i = none) : Lin P n c s s s := by
  intro p k v hp1 hp2 hsp
  obtain ⟨a, ⟨h1, h2, h3, h4, hrun⟩, hb⟩ := l p k v hp1 hp2 hsp
  refine ⟨a, ⟨h1, h2, h3, h4, fun q hq1 hq2 _ => ?_⟩, by omega⟩
  by_cases hqh : q = h
  · -- an entry before `i` has its home after the hole; one after `i` has the empty `i` in its run
    exfalso
    rcases Nat.lt_or_ge p i with hlt | hge
    · have := hb hlt (by omega); omega
    · have hpi : p ≠ i := by rintro rfl; rw [hi] at hsp; cases hsp
      exact hrun i (by omega) (by omega) (by omega) hi
  · exact hrun q hq1 hq2 hqh

/-- the back-shift decision compares the home of the entry with the hole -/
theorem shift_eq_decide (hP : P.Good) (hsz : SizeOk P n) (hhi : h < i) (hi : i < h + n) (r : Run P n c s h i k a) :
    P.shift n (h % n) (i % n) (P.home n k) = decide (a ≤ h) := by
  obtain ⟨_, r2, r3, r4, _⟩ := r
  have hhome := hP.home_lt n k (by omega) hsz.le
  rw [Nat.mod_eq_of_lt hhome] at r4
  rw [hP.shift_eq n _ _ _ hsz.pow2 hsz.le (Nat.mod_lt _ (by omega)) (Nat.mod_lt _ (by omega)) hhome,
    dist_unreduced hhi hi,
    dist_of_offset (d := i - a) hhome (by omega) (by rw [← r4, Nat.mod_add_mod]; congr 1; omega)]
  exact decide_eq_decide.mpr (by omega)

theorem TWF_cleared (hP : P.Good) (hsz : SizeOk P c.length) (t : TWF P c) {e : κ × Nat} (hsi : slot c i = some e)
    (hocc : occ c < c.length) : TWF P (cleared P c i) := by
  -- seen from the free slot `s` ahead of `i`, the entry sits at `i + n` in the window `(s, s + n)`
  obtain ⟨s, hs1, hs2, hs⟩ := exists_ahead hsi hocc
  have hsn : ∀ t : List (Cell κ), t.length = c.length → slot t (s + c.length) = slot t s :=
    fun t ht => slot_congr (by rw [ht, Nat.add_mod_right])
  rw [cleared_congr P (i' := i + c.length) (Nat.add_mod_right _ _).symm]
  apply cleared_ind (i := i + c.length) (stop := s + c.length) (by omega) (by omega) (by rw [hsn c rfl]; exact hs)
    (fun t h j => s < h ∧ Lin P c.length t s h j ∧ Uniq t) (TWF P)
  · rintro t h j k v _ hhj hj hsj hd ⟨hsh, l, u⟩
    obtain ⟨a, r, _⟩ := l j k v (by omega) (by omega) hsj
    rw [shift_eq_decide hP hsz hhj (by omega) r, decide_eq_false_iff_not] at hd
    exact ⟨hsh, l.skip hsj r (by omega), u⟩
  · rintro t h j k v ht _ hhj hj _ hsj hd ⟨hsh, l, u⟩
    obtain ⟨a, r, _⟩ := l j k v (by omega) (by omega) hsj
    rw [shift_eq_decide hP hsz hhj (by omega) r, decide_eq_true_iff] at hd
    exact ⟨by omega, l.move ht hsh hhj (by omega) r hd, u.move ht (by omega) hsj⟩
  · rintro t h j ht hhj hj hst ⟨_, l, u⟩
    rw [hsn t ht] at hst
    exact TWF.of_lin hst (ht ▸ l.done hhj hj) u
  · exact ⟨by omega, (t.lin hs).clear rfl (by omega) (by omega), t.uniq_pos.clear (by omega)⟩

end

theorem occ_ge_of_window : ∀ (w : Nat) (c : List (Cell κ)) (s : Nat), w ≤ c.length →
    (∀ e, e < w → slot c (s + e) ≠ none) → w ≤ occ c := by
  intro w
  induction w with
  | zero => intro c s _ _; exact Nat.zero_le _
  | succ w ih =>
    intro c s hw hocc
    have hn : 0 < c.length := by omega
    -- clear the last slot of the window
    have h1 := occ_set_slot (s + w) none hn
    rw [Option.isSome_iff_ne_none.mpr (hocc w (by omega))] at h1
    have h2 := ih (c.set ((s + w) % c.length) none) s (by simp; omega) (by
      intro e he
      rw [slot_clear_win rfl (by omega) (by omega), if_neg (by omega)]
      exact hocc e (by omega))
    simp at h1
    omega

def keysOf (c : List (Cell κ)) : List κ := (c.filterMap id).map (·.1)

theorem keysOf_cons_some (k : κ) (v : Nat) (rest : List (Cell κ)) : keysOf (some (k, v) :: rest) = k :: keysOf rest := by
  simp [keysOf]

theorem mem_keysOf (c : List (Cell κ)) (k : κ) : k ∈ keysOf c ↔ ∃ v, Has c (k, v) := by
  unfold keysOf
  simp only [List.mem_map, ← has_iff_mem]
  constructor
  · rintro ⟨⟨k', v⟩, h, rfl⟩; exact ⟨v, h⟩
  · rintro ⟨v, h⟩; exact ⟨(k, v), h, rfl⟩

theorem nodup_keysOf {P : Params κ} {c : List (Cell κ)} (h : TWF P c) : (keysOf c).Nodup := by
  have hc : c.Pairwise fun x y => ∀ e, x = some e → ∀ e', y = some e' → e.1 ≠ e'.1 := by
    rw [List.pairwise_iff_getElem]
    intro i j hi hj hij e he e' he' hk
    have hs : ∀ a (ha : a < c.length) e, c[a] = some e → slot c a = some e := fun a ha e h => by
      rw [slot_lt ha, List.getElem?_eq_getElem ha, h]; rfl
    have := h.uniq i j e.1 e.2 e'.2 hi hj (hs i hi e he) (by rw [hk]; exact hs j hj e' he')
    omega
  exact (hc.filterMap id fun _ _ hxy => hxy).map _ fun _ _ hne => hne

section
variable [DecidableEq κ] {P : Params κ} {c : List (Cell κ)}

def Others (c : List (Cell κ)) (k : κ) (s i : Nat) : Prop :=
  ∀ p, s ≤ p → p < i → ∃ k' v', slot c p = some (k', v') ∧ k' ≠ k

theorem findFrom_spec (c : List (Cell κ)) (k : κ) (fe : Bool) : ∀ (fuel s : Nat),
    ∃ i, s ≤ i ∧ Others c k s i ∧
      ((i = s + fuel ∧ findFrom c k fe s fuel = none) ∨
       (i < s + fuel ∧ (∃ v, slot c i = some (k, v)) ∧ findFrom c k fe s fuel = some i) ∨
       (i < s + fuel ∧ slot c i = none ∧ findFrom c k fe s fuel = if fe then some i else none)) := by
  intro fuel
  induction fuel with
  | zero => intro s; exact ⟨s, Nat.le_refl _, fun p h1 h2 => by omega, Or.inl ⟨rfl, rfl⟩⟩
  | succ fuel ih =>
    intro s
    have here : Others c k s s := fun p h1 h2 => by omega
    rw [findFrom]
    split
    · rename_i hs
      exact ⟨s, Nat.le_refl _, here, Or.inr (Or.inr ⟨by omega, hs, rfl⟩)⟩
    · rename_i k' v' hs
      split
      · rename_i hk; subst hk
        exact ⟨s, Nat.le_refl _, here, Or.inr (Or.inl ⟨by omega, ⟨v', hs⟩, rfl⟩)⟩
      · rename_i hk
        obtain ⟨i, h1, h2, h3⟩ := ih (s + 1)
        refine ⟨i, by omega, fun p hp1 hp2 => ?_, by rwa [show s + (fuel + 1) = s + 1 + fuel by omega]⟩
        rcases Nat.eq_or_lt_of_le hp1 with rfl | hlt
        · exact ⟨k', v', hs, hk⟩
        · exact h2 p hlt hp2

theorem entryFind_eq (hP : P.Good) (hle : c.length ≤ P.maxSize) (k : κ) (fe : Bool) :
    entryFind P c k fe = findFrom c k fe (P.home c.length k) (c.length / 2) := by
  unfold entryFind; rw [hP.probe_eq _ hle]

theorem entryFind_sound (hP : P.Good) (hle : c.length ≤ P.maxSize) {k : κ} {fe : Bool} {i : Nat}
    (h : entryFind P c k fe = some i) :
    ∃ d, i = P.home c.length k + d ∧ d < c.length / 2 ∧
      (∀ e, e < d → slot c (P.home c.length k + e) ≠ none) ∧
      ((∃ v, slot c i = some (k, v)) ∨ (fe = true ∧ slot c i = none)) := by
  rw [entryFind_eq hP hle] at h
  obtain ⟨j, h1, h2, h3⟩ := findFrom_spec c k fe (c.length / 2) (P.home c.length k)
  have hij : j < P.home c.length k + c.length / 2 ∧ i = j ∧ ((∃ v, slot c j = some (k, v)) ∨ (fe = true ∧ slot c j = none)) := by
    rcases h3 with ⟨_, h4⟩ | ⟨h3, h4, h5⟩ | ⟨h3, h4, h5⟩
    · rw [h4] at h; cases h
    · rw [h5] at h; cases h; exact ⟨h3, rfl, Or.inl h4⟩
    · rw [h5] at h
      cases fe
      · cases h
      · cases h; exact ⟨h3, rfl, Or.inr ⟨rfl, h4⟩⟩
  obtain ⟨hj, rfl, h4⟩ := hij
  refine ⟨i - P.home c.length k, by omega, by omega, fun e he => ?_, h4⟩
  obtain ⟨k', v', hs, _⟩ := h2 (P.home c.length k + e) (by omega) (by omega)
  rw [hs]; exact Option.some_ne_none _

theorem entryFind_complete (hP : P.Good) (hle : c.length ≤ P.maxSize) (h : TWF P c) (fe : Bool) {j : Nat} {k : κ}
    {v : Nat} (hj : j < c.length) (hs : slot c j = some (k, v)) :
    ∃ i, entryFind P c k fe = some i ∧ i % c.length = j := by
  obtain ⟨d, hd, hpos, hrun⟩ := h.run j k v hj hs
  have hsd : slot c (P.home c.length k + d) = some (k, v) := by rw [← slot_mod, hpos]; exact hs
  rw [entryFind_eq hP hle]
  obtain ⟨i, h1, h2, h3⟩ := findFrom_spec c k fe (c.length / 2) (P.home c.length k)
  -- the probe cannot pass the key
  have hle' : i ≤ P.home c.length k + d := by
    apply Nat.le_of_not_lt
    intro hlt
    obtain ⟨k', v', hs', hk'⟩ := h2 _ (Nat.le_add_right _ _) hlt
    rw [hsd] at hs'; cases hs'; exact hk' rfl
  rcases h3 with ⟨h3, _⟩ | ⟨_, ⟨w, h4⟩, h5⟩ | ⟨_, h4, _⟩
  · omega
  · -- the key sits in one slot only
    refine ⟨i, h5, ?_⟩
    rw [← hpos]
    exact h.uniq_pos i _ k w v h4 hsd
  · -- and the probe cannot stop before it: the run from the home to the key has no empty slot
    exfalso
    rcases Nat.eq_or_lt_of_le hle' with heq | hlt
    · rw [heq, hsd] at h4; cases h4
    · apply hrun (i - P.home c.length k) (by omega)
      rw [show P.home c.length k + (i - P.home c.length k) = i by omega]; exact h4

theorem entryFind_absent (hP : P.Good) (hle : c.length ≤ P.maxSize) {k : κ}
    (habs : ∀ j v, j < c.length → slot c j ≠ some (k, v)) {fe : Bool} {i : Nat}
    (h : entryFind P c k fe = some i) : fe = true ∧ slot c i = none := by
  obtain ⟨d, _, _, _, h4⟩ := entryFind_sound hP hle h
  rcases h4 with ⟨v, hv⟩ | h4
  · exact absurd (by rw [slot_mod]; exact hv) (habs (i % c.length) v (Nat.mod_lt _ (pos_of_slot hv)))
  · exact h4

theorem absent_of_find_empty (hP : P.Good) (hle : c.length ≤ P.maxSize) (h : TWF P c) {k : κ} {i : Nat}
    (hf : entryFind P c k true = some i) (hnone : slot c i = none) :
    ∀ j v, j < c.length → slot c j ≠ some (k, v) := by
  intro j v hj hs
  obtain ⟨i', hi', hm⟩ := entryFind_complete hP hle h true hj hs
  rw [hf] at hi'; cases hi'
  rw [← slot_mod, hm, hs] at hnone; cases hnone

theorem TWF_insert (hP : P.Good) (hle : c.length ≤ P.maxSize) (h : TWF P c) {k : κ} (v : Nat) {i : Nat}
    (hf : entryFind P c k true = some i) (hnone : slot c i = none) :
    TWF P (c.set (i % c.length) (some (k, v))) := by
  have habs := absent_of_find_empty hP hle h hf hnone
  obtain ⟨d, hid, hd, hrun, _⟩ := entryFind_sound hP hle hf
  have hn : 0 < c.length := by omega
  constructor
  · intro j k' v' hj hs
    simp only [List.length_set] at hj ⊢
    rw [slot_set rfl hn] at hs
    split at hs
    · rename_i hij
      cases hs
      refine ⟨d, hd, ?_, ?_⟩
      · rw [← hid, hij, Nat.mod_eq_of_lt hj]
      · intro e he; exact slot_set_some_ne_none i _ hn (hrun e he)
    · obtain ⟨d', hd', hp', hr'⟩ := h.run j k' v' hj hs
      exact ⟨d', hd', hp', fun e he => slot_set_some_ne_none i _ hn (hr' e he)⟩
  · intro a b k' v' w' ha hb hsa hsb
    simp only [List.length_set] at ha hb
    rw [slot_set rfl hn] at hsa hsb
    split at hsa <;> split at hsb
    · rename_i h1 h2
      rw [Nat.mod_eq_of_lt ha] at h1; rw [Nat.mod_eq_of_lt hb] at h2; omega
    · cases hsa; exact absurd hsb (habs b w' hb)
    · cases hsb; exact absurd hsa (habs a v' ha)
    · exact h.uniq a b k' v' w' ha hb hsa hsb

theorem entryFind_succeeds (hP : P.Good) (hle : c.length ≤ P.maxSize) (k : κ) (hocc : occ c < c.length / 2) :
    ∃ i, entryFind P c k true = some i := by
  rw [entryFind_eq hP hle]
  obtain ⟨i, _, h2, h3⟩ := findFrom_spec c k true (c.length / 2) (P.home c.length k)
  rcases h3 with ⟨rfl, _⟩ | ⟨_, _, h5⟩ | ⟨_, _, h5⟩
  · -- a window of `n/2` occupied slots
    have := occ_ge_of_window (c.length / 2) c (P.home c.length k) (Nat.div_le_self _ _) (by
      intro e he
      obtain ⟨k', v', hs, _⟩ := h2 (P.home c.length k + e) (by omega) (by omega)
      rw [hs]; exact Option.some_ne_none _)
    omega
  · exact ⟨i, h5⟩
  · exact ⟨i, h5⟩

/-- the fill loop of `hashmap_rehash` never takes `goto revert`, and keeps the contents -/
theorem rehashFill_spec (hP : P.Good) : ∀ (old t : List (Cell κ)), t.length ≤ P.maxSize → TWF P t →
    occ t + occ old ≤ t.length / 2 → (keysOf old).Nodup → (∀ k, k ∈ keysOf old → ∀ w, ¬ Has t (k, w)) →
    ∃ t', rehashFill P old t = some t' ∧ t'.length = t.length ∧ TWF P t' ∧ occ t' = occ t + occ old ∧
      ∀ e, Has t' e ↔ Has t e ∨ e ∈ old.filterMap id := by
  intro old
  induction old with
  | nil => intro t _ ht _ _ _; exact ⟨t, rfl, rfl, ht, by simp [occ], by simp⟩
  | cons x rest ih =>
    intro t hle ht hocc hnd hdis
    cases x with
    | none =>
      rw [occ_cons] at hocc
      obtain ⟨t', h1, h2, h3, h4, h5⟩ := ih t hle ht (by simpa using hocc) hnd hdis
      exact ⟨t', by simpa [rehashFill] using h1, h2, h3, by simp [occ_cons, h4], by simpa using h5⟩
    | some e =>
      obtain ⟨k, v⟩ := e
      rw [keysOf_cons_some] at hnd hdis
      rw [occ_cons] at hocc
      simp only [Option.isSome_some, if_true] at hocc
      obtain ⟨i, hi⟩ := entryFind_succeeds hP hle k (by omega)
      have hn : 0 < t.length := by omega
      have hnone : slot t i = none :=
        (entryFind_absent hP hle (fun j w hj hs => hdis k (by simp) w ⟨j, hj, hs⟩) hi).2
      have hnd' := List.nodup_cons.mp hnd
      obtain ⟨t', h1, h2, h3, h4, h5⟩ := ih (t.set (i % t.length) (some (k, v))) (by simpa using hle)
        (TWF_insert hP hle ht v hi hnone)
        (by rw [occ_insert hn hnone]; simp; omega) hnd'.2 (by
          intro k' hk' w hhas
          rcases (has_insert hn hnone (k, v) (k', w)).mp hhas with h | h
          · exact hdis k' (by simp [hk']) w h
          · cases h; exact hnd'.1 hk')
      refine ⟨t', by simp [rehashFill, hi, h1], by simpa using h2, h3, ?_, fun e' => ?_⟩
      · rw [h4, occ_insert hn hnone, occ_cons]; simp; omega
      · rw [h5, has_insert hn hnone]
        simp only [List.filterMap_cons, id, List.mem_cons]
        exact or_assoc

end

end Lm.Struct.Map
