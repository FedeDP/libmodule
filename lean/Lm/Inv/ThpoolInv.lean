import Lm.Inv.ThpoolStep
/-!
# The inductive invariant of the thread-pool transition system, and what follows from it

`Inv s` collects everything that is needed to carry the property theorems of `Lm.Props.C06` through every transition.
Its clauses are proved to be preserved, group by group, in the files that import this one; `ThpoolAll` puts them
together.

Where thread 0 is in `m_thpool_new` / `m_thpool_free` is measured by `ph (s.pc 0)` (0 for the program counters of other
threads):

    0 mNewCreate, mNewInsert   3 fLock      6 fAliveChk, fWait, fWaiting   9 fJoin          12 fQueueFree   15 fRet
    1 mNewRet                  4 fSetShut   7 fUnlock                     10 fCondDestroy   13 fListFree    16 mDone
    2 mIdle                    5 fBcast     8 fJoinInit                   11 fMutDestroy    14 fFreePool

so `ph ≤ 1`: `m_thpool_new` has not returned; `ph ≤ 4`: `shutdown` is not written yet, `5 ≤ ph`: it is; `6 ≤ ph`: the
broadcast of `wait_pool` has happened; `10 ≤ ph`: the teardown has begun; `ph ≤ 13`: `pool->threads` is not freed yet,
`13 ≤ ph`: the queue is.

A preservation proof `X_step : Inv s → Step s l s' → X s'` looks at the moving thread's own step and at the others
apart.  For the own step, `cases h <;> simp only [State.goto, upd_same, *] at hu <;> try contradiction` computes the new
program counter in the premise `hu` of the clause and leaves the transitions whose target satisfies it; they are named
in the `case`s that follow.  The other threads keep their program counter (`Step.pc_other`, `Step.cls_other`), and what
the clause says of them survives by a frame lemma of `ThpoolStep` or by `locked_frame` below.
-/
namespace Lm.Thpool

inductive Reach (c : Cfg) : State → Prop
  | init : Reach c (init c)
  | step {s s' : State} (l : Label) : Reach c s → pre s l = true → step s l = some s' → Reach c s'

structure Inv (s : State) : Prop where
  maxPos : 0 < s.cfg.maxThreads

  mainIsM : isM (s.pc 0) = true
  othersNotM : ∀ u, u ≠ 0 → isM (s.pc u) = false

  mutex : ∀ u, holds (s.pc u) = true → s.lockOwner = some u
  owner : ∀ u, s.lockOwner = some u → holds (s.pc u) = true

  waitPc : ∀ u, u ∈ s.waiters → waitingPc (s.pc u) = true
  waitNodup : s.waiters.Nodup

  addingIff : ∀ u, u ∈ s.adding ↔ isS (s.pc u) = true
  addingNodup : s.adding.Nodup
  liveHandle : ∀ u, isS (s.pc u) = true → s.pc 0 = .mIdle

  shutNo : ph (s.pc 0) ≤ 4 → s.shutdown = .no
  shutSet : 5 ≤ ph (s.pc 0) → s.shutdown = (if s.mode then .waitAll else .waitCurr)

  workersIff : ∀ u, u ∈ s.workers ↔ isW (s.pc u) = true
  workersNodup : s.workers.Nodup
  threadsNodup : s.threads.Nodup
  thrSub : ∀ u, u ∈ s.threads → u ∈ s.workers

  /- between its `pthread_create` and its `m_list_insert` the creator `pendBy` has one worker, `newTh`, that is not in
     `pool->threads` yet; apart from that `workers` and `threads` agree until `m_list_free` -/
  pendPc : ∀ c, s.pendBy = some c ↔ (s.pc c = .sInsert ∨ s.pc c = .nInsert ∨ s.pc c = .mNewInsert)
  pendNone : s.pendBy = none → ph (s.pc 0) ≤ 13 → ∀ u, u ∈ s.workers → u ∈ s.threads
  pendSome : ∀ c, s.pendBy = some c → (∀ u, u ∈ s.workers → (u = s.newTh c ∨ u ∈ s.threads)) ∧ s.newTh c ∉ s.threads
                                       ∧ s.newTh c ∈ s.workers
  pendSelf : ∀ c, s.pendBy = some c → s.newTh c ≠ c
  lenRel : ph (s.pc 0) ≤ 13 → s.workers.length = s.threads.length + (if s.pendBy.isSome then 1 else 0)
  workersLe : s.workers.length ≤ s.cfg.maxThreads

  /- there is room for the thread about to be created, and a task is queued only while there is a thread to run it -/
  createRoom : ∀ u, (s.pc u = .sCreate ∨ s.pc u = .nCreate) → s.threads.length < s.cfg.maxThreads
  newIdx : ph (s.pc 0) = 0 → s.idx = s.threads.length ∧ s.idx < s.cfg.maxThreads ∧ s.cfg.isLazy = false
  eagerFull : s.cfg.isLazy = false → (s.pc 0 = .mNewRet ∨ s.pc 0 = .mIdle) → s.threads ≠ []
  enqThreads : ∀ u, (s.pc u = .sEnq ∨ s.pc u = .nEnq) → s.threads ≠ []
  tasksThreads : s.tasks ≠ [] → s.threads ≠ []
  tasksFreed : 13 ≤ ph (s.pc 0) → s.tasks = []

  waitShut : ∀ u, s.pc u = .wWait → s.shutdown = .no
  bcastDone : 6 ≤ ph (s.pc 0) → ∀ u, u ∈ s.waiters → u = 0
  breakChk : ∀ u, s.pc u = .wBreakChk → s.tasks ≠ [] ∨ s.shutdown ≠ .no
  breakLen : ∀ u, s.pc u = .wBreakLen → s.shutdown = .waitAll
  deqNonempty : ∀ u, s.pc u = .wDequeue → s.tasks ≠ []
  exitShut : ∀ u, exiting (s.pc u) = true → s.shutdown ≠ .no
  exitAllEmpty : ∀ u, exiting (s.pc u) = true → s.shutdown = .waitAll → s.tasks = []

  aliveCnt : ph (s.pc 0) ≤ 13 → s.alive = s.threads.countP (fun u => beforeDec (s.pc u))
  joinCover : s.pc 0 = .fJoin → ∀ u, u ∈ s.threads → u ∈ s.joinRest ∨ s.pc u = .wDone
  joinSub : s.pc 0 = .fJoin → ∀ u, u ∈ s.joinRest → u ∈ s.threads
  goneAll : (10 ≤ ph (s.pc 0) ∨ (s.cfg.detached = true ∧ s.pc 0 = .fUnlock)) → ∀ u, isW (s.pc u) = true → gone (s.pc u) = true
  doneAll : s.cfg.detached = false → 10 ≤ ph (s.pc 0) → ∀ u, isW (s.pc u) = true → s.pc u = .wDone
  flags : (s.condDestroyed = true → 11 ≤ ph (s.pc 0)) ∧ (s.mutexDestroyed = true → 12 ≤ ph (s.pc 0)) ∧
          (s.poolFreed = true → 15 ≤ ph (s.pc 0))
  detPath : s.cfg.detached = true → ph (s.pc 0) ≠ 8 ∧ ph (s.pc 0) ≠ 9
  nondetPath : s.cfg.detached = false → ph (s.pc 0) ≠ 6

  tasksNodup : s.tasks.Nodup
  queued : ∀ k, k ∈ s.tasks → (s.task k).accepted = true ∧ (s.task k).started = false ∧ (s.task k).discarded = false
  heldInv : ∀ u, held (s.pc u) = true →
    (s.task (s.cur u)).accepted = true ∧ (s.task (s.cur u)).started = false ∧ (s.task (s.cur u)).discarded = false ∧
    s.cur u ∉ s.tasks ∧ (s.task (s.cur u)).runner = u
  inTaskInv : ∀ u, inTask (s.pc u) = true →
    (s.task (s.cur u)).started = true ∧ (s.task (s.cur u)).finished = false ∧ (s.task (s.cur u)).runner = u
  execCnt : ∀ k, (s.task k).execCount = if (s.task k).started then 1 else 0
  finStarted : ∀ k, (s.task k).finished = true → (s.task k).started = true
  runningInv : ∀ k, (s.task k).started = true → (s.task k).finished = false →
    inTask (s.pc (s.task k).runner) = true ∧ s.cur (s.task k).runner = k
  pendingInv : ∀ k, (s.task k).accepted = true → (s.task k).started = false → (s.task k).discarded = false →
    k ∈ s.tasks ∨ (held (s.pc (s.task k).runner) = true ∧ s.cur (s.task k).runner = k)
  preEnqInv : ∀ u, preEnq (s.pc u) = true →
    (s.task (s.cur u)).submitted = true ∧ (s.task (s.cur u)).accepted = false ∧ (s.task (s.cur u)).subBy = u
  nPreEnqInv : ∀ u, nPreEnq (s.pc u) = true →
    (s.task (s.addK u)).submitted = true ∧ (s.task (s.addK u)).accepted = false ∧ (s.task (s.addK u)).subBy = u
  newQuiet : ph (s.pc 0) ≤ 1 → s.tasks = [] ∧ ∀ u, held (s.pc u) = false ∧ inTask (s.pc u) = false
  /- the shutdown check of `m_thpool_add` is made with the lock held -/
  pastChkNo : ∀ u, pastChk (s.pc u) = true → s.shutdown = .no
  accSub : ∀ k, (s.task k).accepted = true → (s.task k).submitted = true
  startAcc : ∀ k, (s.task k).started = true → (s.task k).accepted = true
  discInv : ∀ k, (s.task k).discarded = true → (s.task k).accepted = true ∧ (s.task k).started = false
  ranArg : ∀ k, (s.task k).started = true → (s.task k).ranWith = some (s.task k).arg
  discPhase : ∀ k, (s.task k).discarded = true → 13 ≤ ph (s.pc 0) ∧ s.mode = false

  waitAlive : s.pc 0 = .fWait → 0 < s.alive
  /- no lost wake-up: if `alive` reaches 0 while thread 0 is still in the wait set, a worker is about to broadcast -/
  mainWait : s.pc 0 = .fWaiting → 0 ∈ s.waiters → s.alive = 0 → ∃ u, s.pc u = .wExitBcast

  /- so that `pthread_create` finds a thread that does not exist yet (`progress`) -/
  finSupp : ∃ N : Nat, ∀ u : Nat, N ≤ u → s.pc u = .none

/-- while a thread is past the shutdown check of `m_thpool_add` (lock held) thread 0 has not written `shutdown` -/
theorem ph_of_pastChk {s : State} (hi : Inv s) (u : Tid) (hp : pastChk (s.pc u) = true) : ph (s.pc 0) ≤ 4 := by
  have a := hi.pastChkNo u hp
  have b := hi.shutSet
  cases hm : s.mode <;> (apply Nat.le_of_not_lt; intro hlt; have := b (by omega); simp [hm, a] at this)

/-- a task runs only after `m_thpool_new` has returned -/
theorem ph_of_inTask {s : State} (hi : Inv s) (u : Tid) (hp : inTask (s.pc u) = true) : 2 ≤ ph (s.pc 0) := by
  apply Nat.le_of_not_lt; intro hlt
  have := (hi.newQuiet (by omega)).2 u
  rw [hp] at this; cases this.2

/-- case analysis on `h : step s l = some s'`: one goal per enabled transition, with `s'` replaced
by the explicit successor state -/
macro "step_cases" h:ident : tactic => `(tactic| (
  unfold step at $h:ident
  simp only [] at $h:ident
  repeat' (split at $h:ident)
  all_goals (cases $h:ident)))

section
variable {s s' : State} {l : Label} {u v : Tid}

theorem zero_of_isM (hi : Inv s) (hu : isM (s.pc u) = true) : u = 0 :=
  Decidable.byContradiction fun u0 => by have := hi.othersNotM u u0; rw [hu] at this; cases this

theorem holder_unique (hi : Inv s) (hu : holds (s.pc u) = true) (hv : holds (s.pc v) = true) : u = v :=
  Option.some.inj ((hi.mutex u hu).symm.trans (hi.mutex v hv))

/-- while `u` holds the mutex no other thread writes the queue or `shutdown`: the writers hold it too, except the
final `m_queue_free`, which runs when every worker has returned and no submitter is left -/
theorem locked_frame (hi : Inv s) (h : Step s l s') (hne : u ≠ l.tid) (hu : holds (s.pc u) = true) :
    s'.tasks = s.tasks ∧ s'.shutdown = s.shutdown := by
  have excl : holds (s.pc l.tid) = true → False := fun ht => hne (holder_unique hi hu ht)
  refine ⟨?_, (h.shutdown_cases.resolve_right fun e => excl (by simp [e.1])).1⟩
  rcases h.tasks_cases with e | ⟨e, _⟩ | ⟨e, _⟩ | ⟨e, _⟩ | ⟨e, _⟩
  · exact e
  iterate 3 exact (excl (by simp [e])).elim
  · have t0 := zero_of_isM hi (u := l.tid) (by simp [e])
    rw [t0] at e hne
    rcases holds_role _ hu with hw | hs | hm
    · have := not_holds_of_gone _ (hi.goneAll (.inl (by simp [e])) u hw)
      rw [hu] at this; cases this
    · have := hi.liveHandle u hs; rw [e] at this; cases this
    · exact (hne (zero_of_isM hi hm)).elim

/-- `m_thpool_add` is called after `m_thpool_new` has returned -/
theorem two_le_ph_of_pastChk (hi : Inv s) (hp : pastChk (s.pc u) = true) : 2 ≤ ph (s.pc 0) := by
  rcases (pastChk_role _ hp).2 with hs | ht
  · rw [hi.liveHandle u hs]; decide
  · exact ph_of_inTask hi u ht

/-- `add_threads` is run by `m_thpool_add` past its shutdown check, with the mutex held and after `m_thpool_new` has
returned, or by thread 0 in `m_thpool_new` -/
theorem addThreads_role (hi : Inv s) (hu : pastChk (s.pc u) = true ∨ (isM (s.pc u) = true ∧ ph (s.pc u) = 0)) :
    (holds (s.pc u) = true ∧ 2 ≤ ph (s.pc 0) ∧ ph (s.pc 0) ≤ 4) ∨ (u = 0 ∧ ph (s.pc 0) = 0) := by
  rcases hu with hp | ⟨hm, h0⟩
  · exact .inl ⟨(pastChk_role _ hp).1, two_le_ph_of_pastChk hi hp, ph_of_pastChk hi u hp⟩
  · cases zero_of_isM hi hm
    exact .inr ⟨rfl, h0⟩

theorem pc_zero_of_isM (hi : Inv s) {p : Pc} (e : s.pc u = p) (hm : isM p = true) : s.pc 0 = p :=
  zero_of_isM hi (e ▸ hm) ▸ e

/-- while `u` is past the shutdown check of `m_thpool_add` no other thread writes `pool->threads`: the inserts of
`m_thpool_add` are made under the mutex, and thread 0 is neither in `m_thpool_new` nor at `m_list_free` -/
theorem threads_frame (hi : Inv s) (h : Step s l s') (hne : u ≠ l.tid) (hu : pastChk (s.pc u) = true) :
    s'.threads = s.threads := by
  have excl : holds (s.pc l.tid) = true → False := fun ht => hne (holder_unique hi (pastChk_role _ hu).1 ht)
  have h2 := two_le_ph_of_pastChk hi hu
  have h4 := ph_of_pastChk hi u hu
  rcases h.addThreads with ⟨_, c⟩ | i | n
  · exact c.threads
  · rcases i.pc with hc | hc | hc
    · exact (excl (by simp [hc])).elim
    · exact (excl (by simp [hc])).elim
    · simp [pc_zero_of_isM hi hc rfl] at h2
  · rcases n.threads with e | ⟨hc, _⟩
    · exact e
    · simp [pc_zero_of_isM hi hc rfl] at h4

/-- Thread 0 stays in its phase or goes on to the next one, except where `m_thpool_new` fails (0 to 3) and at the two
tests of `DETACHED` in `wait_pool`: after the broadcast (5) to the wait for `alive == 0` (6) or past it (7), after the
unlock (7) to the teardown (10) or to the join loop (8). -/
theorem ph_cases (hi : Inv s) (h : Step s l s') :
    ph (s'.pc 0) = ph (s.pc 0) ∨ (ph (s'.pc 0) = ph (s.pc 0) + 1 ∧ ph (s.pc 0) ≠ 5 ∧ ph (s.pc 0) ≠ 7) ∨
    (ph (s.pc 0) = 0 ∧ ph (s'.pc 0) = 3) ∨ (ph (s.pc 0) = 5 ∧ ph (s'.pc 0) = if s.cfg.detached then 6 else 7) ∨
    (ph (s.pc 0) = 7 ∧ ph (s'.pc 0) = if s.cfg.detached then 10 else 8) := by
  by_cases h0 : l.tid = 0
  · obtain ⟨t, a⟩ := l
    obtain rfl : t = 0 := h0
    have hm := hi.mainIsM
    -- (`hm` first: it is small, and leaves only thread 0's transitions for the `simp` of the goal)
    cases h <;> (try simp only [*] at hm) <;> try contradiction
    all_goals simp [State.goto, *]
  · exact .inl (congrArg ph (h.pc_zero h0))

/-- `add_threads` runs in `m_thpool_new` and behind the shutdown check of `m_thpool_add`: not once `shutdown` is set -/
theorem ph_of_addThreads (hi : Inv s) (hc : pastChk (s.pc u) = true ∨ s.pc u = .mNewCreate ∨ s.pc u = .mNewInsert) :
    ph (s.pc 0) ≤ 4 := by
  rcases hc with e | e | e
  · exact ph_of_pastChk hi u e
  all_goals rw [pc_zero_of_isM hi e rfl]; decide

theorem pend_ph (hi : Inv s) {c : Tid} (hp : s.pendBy = some c) : ph (s.pc 0) ≤ 4 :=
  ph_of_addThreads hi (u := c) (by rcases (hi.pendPc c).mp hp with e | e | e <;> simp [e])

/-- so from then on no thread is created … -/
theorem pc_other_shut (hi : Inv s) (h : Step s l s') (h5 : 5 ≤ ph (s.pc 0)) (hu : u ≠ l.tid) : s'.pc u = s.pc u :=
  (h.pc_frame hu).resolve_right fun e => by
    have := ph_of_addThreads hi (u := l.tid) (by rcases h.create_pc e.2.2 with e | e | e <;> simp [e])
    omega

/-- … and `pool->threads` stays as it is until `m_list_free` -/
theorem threads_shut (hi : Inv s) (h : Step s l s') (h5 : 5 ≤ ph (s.pc 0)) (h13 : ph (s.pc 0) ≠ 13) : s'.threads = s.threads := by
  rcases h.alive_cases with e | e | ⟨e, _⟩ | ⟨e, _⟩
  · exact e.1
  · exact e.2.1
  · have := ph_of_addThreads hi (u := l.tid) (by rcases e with e | e | e <;> simp [e])
    omega
  · simp [pc_zero_of_isM hi e rfl] at h13

theorem none_not_thread (hi : Inv s) (j : Tid) (hj : s.pc j = .none) : j ∉ s.threads := by
  intro hm
  have := (hi.workersIff j).mp (hi.thrSub j hm)
  simp [hj] at this

theorem enq_pre (hi : Inv s) {k : TaskId} (hp : s.pc u = .sEnq ∧ k = s.cur u ∨ s.pc u = .nEnq ∧ k = s.addK u) :
    (s.task k).submitted = true ∧ (s.task k).accepted = false ∧ (s.task k).subBy = u := by
  rcases hp with ⟨hp, rfl⟩ | ⟨hp, rfl⟩
  · exact hi.preEnqInv u (by simp [hp])
  · exact hi.nPreEnqInv u (by simp [hp])

theorem no_submitter (hi : Inv s) (h0 : s.pc 0 ≠ .mIdle) (u : Tid) : isS (s.pc u) = false :=
  Bool.eq_false_iff.mpr fun hS => h0 (hi.liveHandle u hS)

section
variable {k : TaskId}

theorem fresh_not_accepted (hi : Inv s) (h : (s.task k).submitted = false) : (s.task k).accepted = false :=
  Bool.eq_false_iff.mpr fun ha => by rw [hi.accSub k ha] at h; cases h

theorem finished_of_gone (hi : Inv s) (hg : ∀ u, isW (s.pc u) = true → gone (s.pc u) = true)
    (hs : (s.task k).started = true) : (s.task k).finished = true := by
  cases hf : (s.task k).finished with
  | true => rfl
  | false =>
    have hr := (hi.runningInv k hs hf).1
    have := hg _ (inTask_isW _ hr)
    rw [inTask_not_gone _ hr] at this; cases this

theorem discarded_of_gone (hi : Inv s) (hg : ∀ u, isW (s.pc u) = true → gone (s.pc u) = true) (hq : s.tasks = [])
    (ha : (s.task k).accepted = true) (hs : (s.task k).started = false) : (s.task k).discarded = true := by
  cases hd : (s.task k).discarded with
  | true => rfl
  | false =>
    rcases hi.pendingInv k ha hs hd with hm | ⟨hh, _⟩
    · rw [hq] at hm; cases hm
    · have := hg _ (held_isW _ hh)
      rw [held_not_gone _ hh] at this; cases this
end

end

end Lm.Thpool
