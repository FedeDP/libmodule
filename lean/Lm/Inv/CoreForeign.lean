import Lm.Inv.CoreGuards
/-! Calls that cross a context boundary: a module operated from a thread that does not own its context, a message
addressed to a module of another context (C14). -/
namespace Lm.Core

def Op.modTarget : Op → Option ModId
  | .dereg m | .start m | .pause m | .resume m | .stop m | .become m _ | .unbecome m | .stash m _ | .unstash m _
  | .batchSize m _ | .batchTimeout m _ | .tokenBucket m _ _ | .tell m _ _ _ | .publish m _ _ _ | .pill m _
  | .subscribe m _ _ _ _ _ _ | .unsubscribe m _ | .regSrc m _ _ _ | .deregSrc m _ _ _ | .srcLen m => some m
  | _ => none

/-- the kind-specific parameter guard of a source call passed (it is checked before the module is looked at) -/
def Op.paramsOk : Op → Bool
  | .regSrc _ ok _ _ => ok
  | .deregSrc _ ok _ _ => ok
  | _ => true

theorem modAssert_foreign (s : St) (hc : Bool) (m : ModId) (md : Mod) (hm : s.mods[m]? = some md)
    (hz : md.state ≠ .zombie) (hf : md.ctxId < s.nextCtx) : modAssert (foreignView s hc) m = some EPERM := by
  have hm' : (foreignView s hc).mods[m]? = some md := hm
  have hz' : (md.state == MState.zombie) = false := by simp [hz]
  simp only [modAssert, hm', hz', Bool.false_eq_true, if_false]
  cases hc with
  | false => simp [foreignView, mctx]
  | true =>
    have hne : (s.nextCtx == md.ctxId) = false := by
      simp only [beq_eq_false_iff_ne, ne_eq]; omega
    simp [foreignView, mctx, hne]

theorem modop_refused (c : Cfg) (s : St) (op : Op) (m : ModId) (e : Int) (ht : op.modTarget = some m)
    (h : modAssert s m = some e) :
    ∃ code : Int, runP (apiProg c op) s = (s, .inl code) ∧ (op.paramsOk = true → code = e ∨ code = EPERM) ∧
      (op.paramsOk = false → code = EINVAL) := by
  have hg := guarded_refuses_assert s m e
  cases op with
  | regSrc m' ok x pb =>
    cases ht
    cases ok with
    | false => exact ⟨EINVAL, rfl, nofun, fun _ => rfl⟩
    | true => exact ⟨e, by simpa [apiProg, apiRegSrc, Refuses] using hg _ _ _ _ h, fun _ => .inl rfl, nofun⟩
  | deregSrc m' ok k key =>
    cases ht
    cases ok with
    | false => exact ⟨EINVAL, rfl, nofun, fun _ => rfl⟩
    | true =>
      by_cases hk : k = .task
      · exact ⟨EPERM, by simp [apiProg, apiDeregSrc, hk], fun _ => .inr rfl, nofun⟩
      · exact ⟨e, by simpa [apiProg, apiDeregSrc, hk, Refuses] using hg _ _ _ _ h, fun _ => .inl rfl, nofun⟩
  | dereg m' =>
    cases ht
    refine ⟨e, ?_, fun _ => .inl rfl, nofun⟩
    -- the ghost update after the call is made for the result 0 only
    have hne : (e == 0) = false := by
      have := modAssert_neg s _ e h
      simp only [beq_eq_false_iff_ne, ne_eq]; omega
    have hr : runP (modDeregisterP m) s = (s, .inl e) := dereg_refuses_assert s m e _ h
    simp only [apiProg]
    rw [runP_bind _ _ _ _ _ hr]
    simp only [runP_modify_bind, hne, Bool.false_eq_true, if_false, runP_pure]
  | start m' =>
    cases ht
    exact ⟨e, by simp only [apiProg]; exact start_refuses_assert s m e h, fun _ => .inl rfl, nofun⟩
  | pause m' | resume m' | stop m' | become m' _ | unbecome m' | stash m' _ | unstash m' _ | batchSize m' _
  | batchTimeout m' _ | tokenBucket m' _ _ | tell m' _ _ _ | publish m' _ _ _ | pill m' _ | subscribe m' _ _ _ _ _ _
  | unsubscribe m' _ | srcLen m' =>
    cases ht
    exact ⟨e, by simp only [apiProg]; exact hg _ _ _ _ h, fun _ => .inl rfl, nofun⟩
  | _ => exact nomatch ht

@[simp] theorem beq_list_mod_self (l : List Mod) : (l == l) = true := by simp
@[simp] theorem beq_list_src_self (l : List Src) : (l == l) = true := by simp
@[simp] theorem beq_list_out_self (l : List Out) : (l == l) = true := by simp

theorem foreignStep_refused (c : Cfg) (hc : Bool) (op : Op) (code : Int)
    (h : Refuses (apiProg c op) (foreignView c.st hc) code) : step c (.foreign hc op) = { c with st := c.st.emit (.ret code) } := by
  show foreignStep c hc op = _
  unfold foreignStep
  simp [show runP _ _ = _ from h]

/-- a module operation attempted from a foreign thread fails and changes nothing -/
theorem foreign_refused (c : Cfg) (hc : Bool) (op : Op) (m : ModId) (md : Mod) (ht : op.modTarget = some m)
    (hm : c.st.mods[m]? = some md) (hz : md.state ≠ .zombie) (hf : md.ctxId < c.st.nextCtx) :
    ∃ code : Int, step c (.foreign hc op) = { c with st := c.st.emit (.ret code) } ∧
      (op.paramsOk = true → code = EPERM) ∧ (op.paramsOk = false → code = EINVAL) := by
  obtain ⟨code, hr, h1, h2⟩ := modop_refused c (foreignView c.st hc) op m EPERM ht (modAssert_foreign c.st hc m md hm hz hf)
  exact ⟨code, foreignStep_refused c hc op code hr, fun hp => by rcases h1 hp with h | h <;> exact h, h2⟩

/-- the same for a ZOMBIE handle, with another code: the handle is checked before the calling thread is -/
theorem foreign_zombie_refused (c : Cfg) (hc : Bool) (op : Op) (m : ModId) (md : Mod) (ht : op.modTarget = some m)
    (hm : c.st.mods[m]? = some md) (hz : md.state = .zombie) :
    ∃ code : Int, code < 0 ∧ step c (.foreign hc op) = { c with st := c.st.emit (.ret code) } := by
  obtain ⟨code, hr, h1, h2⟩ := modop_refused c (foreignView c.st hc) op m EACCES ht (modAssert_zombie (s := foreignView c.st hc) hm hz)
  refine ⟨code, ?_, foreignStep_refused c hc op code hr⟩
  cases hp : op.paramsOk with
  | true => rcases h1 hp with h | h <;> rw [h] <;> decide
  | false => rw [h2 hp]; decide

theorem sameCtx_alien (s : St) (m : ModId) (md : Mod) (name : String) (hm : s.mods[m]? = some md) (hf : md.ctxId < s.nextCtx) :
    sameCtx { s with mods := s.mods ++ [alienMod s name] } m s.mods.length = false := by
  have hlt : m < s.mods.length := (List.getElem?_eq_some_iff.mp hm).1
  simp only [sameCtx, List.getElem?_append_left hlt, hm, List.getElem?_concat_length, alienMod, beq_eq_false_iff_ne, ne_eq]
  omega

theorem mctx_alien (s : St) (name : String) : mctx { s with mods := s.mods ++ [alienMod s name] } = mctx s := by
  unfold mctx
  cases s.ctx with
  | none => rfl
  | some c =>
    simp only
    cases c.currMod with
    | none => rfl
    | some cm =>
      simp only [List.getElem?_append]
      by_cases h : cm < s.mods.length
      · rw [if_pos h]
      · -- beyond the owner's modules there is the alien object, which is not DENY_CTX, or nothing
        rw [if_neg h, List.getElem?_eq_none (Nat.le_of_not_lt h)]
        cases cm - s.mods.length <;> rfl

/-- a message cannot be addressed to a module of another context: tell and poison pill towards a module object owned by
another thread's context fail (the sender's own guards first, then -EINVAL) and change nothing, the alien module included -/
theorem xtell_refused (c : Cfg) (m : ModId) (md : Mod) (name : String) (pill : Bool)
    (hm : c.st.mods[m]? = some md) (hf : md.ctxId < c.st.nextCtx) :
    ∃ code : Int, code < 0 ∧ step c (.xtell m name pill) = { c with st := c.st.emit (.ret code) } ∧
      (modAssert c.st m = none → md.flags.denyPub = false → code = EINVAL) := by
  let view : St := { c.st with mods := c.st.mods ++ [alienMod c.st name] }
  have hmv : view.mods[m]? = some md := by
    show (c.st.mods ++ [alienMod c.st name])[m]? = some md
    rw [List.getElem?_append_left (List.getElem?_eq_some_iff.mp hm).1]; exact hm
  have hsc : sameCtx view m c.st.mods.length = false := sameCtx_alien c.st m md name hm hf
  have hma : modAssert view m = modAssert c.st m := by
    simp only [modAssert, hmv, hm, show mctx view = mctx c.st from mctx_alien c.st name]
  have key : ∃ code : Int, code < 0 ∧ Refuses (if pill then apiPill m c.st.mods.length else apiTell m c.st.mods.length 0 false) view code ∧
      (modAssert c.st m = none → md.flags.denyPub = false → code = EINVAL) := by
    cases hmm : modAssert view m with
    | some e =>
      refine ⟨e, modAssert_neg _ _ _ hmm, ?_, fun h => by rw [hma, h] at hmm; cases hmm⟩
      cases pill <;> simp [apiPill, apiTell, Refuses, runP_guarded, hmm]
    | none =>
      by_cases hd : md.flags.denyPub = true
      · refine ⟨EPERM, by decide, ?_, fun _ h => by rw [hd] at h; cases h⟩
        cases pill <;> simp [apiPill, apiTell, Refuses, runP_guarded, hmm, hmv, hd]
      · refine ⟨EINVAL, by decide, ?_, fun _ _ => rfl⟩
        cases pill <;> simp [apiPill, apiTell, Refuses, runP_guarded, hmm, hmv, hd, hsc]
  obtain ⟨code, hneg, hr, hcode⟩ := key
  refine ⟨code, hneg, ?_, hcode⟩
  show xtellStep c m name pill = _
  unfold xtellStep
  simp only
  rw [show runP _ view = _ from hr]
  simp only
  rw [if_pos (by simp [view])]

end Lm.Core
