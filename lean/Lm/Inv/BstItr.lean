import Lm.Inv.Bst
/-! Links: what `find_min_subtree`, `bst_next` and the normalisation in `m_bst_itr_remove` compute on
them.  The iterator: its position in the in-order sequence (`ItAt`) and what each call does to it. -/
namespace Lm.Struct.Bst
open Tree

def Link.holder : Link → Option Nat
  | .root => none
  | .left n => some n
  | .right n => some n
  | .parent n => some n

def nextOf (n : Nat) : List Nat → Option Nat
  | [] => none
  | x :: xs => if x = n then xs.head? else nextOf n xs

theorem nextOf_not_mem {n : Nat} : ∀ {xs : List Nat}, n ∉ xs → nextOf n xs = none
  | [], _ => rfl
  | x :: xs, h => by
    simp only [List.mem_cons, not_or] at h
    simp only [nextOf, if_neg (Ne.symm h.1)]
    exact nextOf_not_mem h.2

theorem nextOf_append (n : Nat) : ∀ (xs ys : List Nat), nextOf n (xs ++ ys) =
    if n ∈ xs then (nextOf n xs).or ys.head? else nextOf n ys
  | [], ys => by simp
  | x :: xs, ys => by
    by_cases hx : x = n
    · subst hx
      simp only [List.cons_append, nextOf, if_true, List.mem_cons, true_or]
      cases xs <;> simp
    · have : (n ∈ x :: xs) = (n ∈ xs) := by simp [Ne.symm hx]
      simp only [List.cons_append, nextOf, if_neg hx, this]
      exact nextOf_append n xs ys

theorem nextOf_split {n : Nat} {B A : List Nat} (h : n ∉ B) : nextOf n (B ++ n :: A) = A.head? := by
  rw [nextOf_append, if_neg h]; simp [nextOf]

theorem fieldOf_holder {up id l r lk x} (h : fieldOf up id l r lk = some x) : lk.holder = some id := by
  cases lk <;> simp [fieldOf] at h <;> simp [Link.holder, h.1]

theorem fieldOf_none {up id l r lk} (h : lk.holder ≠ some id) : fieldOf up id l r lk = none := by
  cases lk <;> simp [fieldOf] <;> simp [Link.holder] at h <;> exact h

theorem derefIn_holder {lk : Link} {x} : ∀ {t : Tree} {up}, derefIn up t lk = some x → ∃ h, lk.holder = some h ∧ h ∈ t.ids
  | .nil, _, h => by simp [derefIn] at h
  | .node id l v r, up, h => by
    simp only [derefIn] at h
    split at h
    · rename_i y hy
      exact ⟨id, fieldOf_holder hy, by simp [ids]⟩
    · split at h
      · rename_i y hy
        obtain ⟨k, hk, hm⟩ := derefIn_holder hy
        exact ⟨k, hk, by simp [ids, hm]⟩
      · obtain ⟨k, hk, hm⟩ := derefIn_holder h
        exact ⟨k, hk, by simp [ids, hm]⟩

theorem derefIn_none {lk : Link} {t : Tree} {up} (h : ∀ k, lk.holder = some k → k ∉ t.ids) : derefIn up t lk = none := by
  cases e : derefIn up t lk with
  | none => rfl
  | some x => obtain ⟨k, hk, hm⟩ := derefIn_holder e; exact absurd hm (h k hk)

theorem derefIn_node_left {up id l v r lk x} (h : derefIn (some id) l lk = some x) (hid : id ∉ l.ids) :
    derefIn up (.node id l v r) lk = some x := by
  obtain ⟨k, hk, hm⟩ := derefIn_holder h
  have : fieldOf up id l r lk = none := fieldOf_none (by rw [hk]; intro e; cases e; exact hid hm)
  simp [derefIn, this, h]

theorem derefIn_node_right {up id l v r lk x} (h : derefIn (some id) r lk = some x) (hid : id ∉ r.ids)
    (hd : ∀ k ∈ r.ids, k ∉ l.ids) : derefIn up (.node id l v r) lk = some x := by
  obtain ⟨k, hk, hm⟩ := derefIn_holder h
  have h1 : fieldOf up id l r lk = none := fieldOf_none (by rw [hk]; intro e; cases e; exact hid hm)
  have h2 : derefIn (some id) l lk = none := derefIn_none (by intro k' hk'; rw [hk] at hk'; cases hk'; exact hd k hm)
  simp [derefIn, h1, h2, h]

theorem mem_right {n id : Nat} {L R : List Nat} (hm : n ∈ L ∨ n = id ∨ n ∈ R) (hid : id ≠ n) (hl : n ∉ L) : n ∈ R :=
  (hm.resolve_left hl).resolve_left fun e => hid e.symm

theorem nodup_node {id l v r} (h : (Tree.node id l v r).ids.Nodup) :
    l.ids.Nodup ∧ r.ids.Nodup ∧ id ∉ l.ids ∧ id ∉ r.ids ∧ (∀ k ∈ r.ids, k ∉ l.ids) := by
  simp only [ids, List.nodup_append, List.nodup_cons, List.mem_cons] at h
  obtain ⟨hl, ⟨hir, hr⟩, hd⟩ := h
  refine ⟨hl, hr, ?_, hir, ?_⟩
  · intro hm; exact hd id hm id (Or.inl rfl) rfl
  · intro k hk hm; exact hd k hm k (Or.inr hk) rfl

/-! `find_min_subtree` and `bst_next` are stated for a subtree `s` seen from outside: `D` is any
dereferencing function that agrees with `derefIn up s` on the links held inside `s` (`derefIn` of an
enclosing tree, or `deref` of the whole one). -/

theorem head?_ids_node (id : Nat) (l : Tree) (v : Val) (r : Tree) : ∃ m, (Tree.node id l v r).ids.head? = some m := by
  rw [ids, List.head?_append]; cases l.ids.head? <;> simp

theorem minLink_deref {D : Link → Option (Option Nat)} : ∀ {s : Tree} {lk0 : Link} {up : Option Nat}, s ≠ .nil → s.ids.Nodup →
    D lk0 = some s.rootId → (∀ lk x, derefIn up s lk = some x → D lk = some x) → D (minLink lk0 s) = some s.ids.head?
  | .nil, _, _, h, _, _, _ => absurd rfl h
  | .node id .nil v r, _, _, _, _, h0, _ => by simpa [minLink, ids, rootId] using h0
  | .node id (.node i2 l2 v2 r2) v r, _, up, _, hn, _, hin => by
    obtain ⟨hl, _, hil, _, _⟩ := nodup_node hn
    obtain ⟨m, hm⟩ := head?_ids_node i2 l2 v2 r2
    rw [minLink, ids, List.head?_append, hm, Option.some_or, ← hm]
    exact minLink_deref (by simp) hl (hin _ _ (by simp [derefIn, fieldOf])) fun lk x e => hin lk x (derefIn_node_left e hil)

theorem nextLinkAux_not_mem {n : Nat} : ∀ {t : Tree} {top}, n ∉ t.ids → nextLinkAux n top t = none
  | .nil, _, _ => rfl
  | .node id l v r, top, h => by
    simp only [ids, List.mem_append, List.mem_cons, not_or] at h
    simp only [nextLinkAux, if_neg (Ne.symm h.2.1), nextLinkAux_not_mem h.1, nextLinkAux_not_mem h.2.2]

/-- `nxt`, the content of `&top->parent`, is what follows `t` in the enclosing tree: the target of
the link `bst_next` lands on when `n` is the last node of `t`. -/
theorem nextLinkAux_spec {D : Link → Option (Option Nat)} (n : Nat) : ∀ (t : Tree) (top : Nat) (up nxt : Option Nat),
    t.ids.Nodup → n ∈ t.ids → (∀ lk x, derefIn up t lk = some x → D lk = some x) → D (.parent top) = some nxt →
    ∃ lk, nextLinkAux n top t = some lk ∧ D lk = some ((nextOf n t.ids).or nxt)
  | .nil, _, _, _, _, hm, _, _ => by simp [ids] at hm
  | .node id l v r, top, up, nxt, hn, hm, hin, htop => by
    obtain ⟨hl, hr, hil, hir, hd⟩ := nodup_node hn
    have hinl : ∀ lk x, derefIn (some id) l lk = some x → D lk = some x := fun lk x e => hin lk x (derefIn_node_left e hil)
    have hinr : ∀ lk x, derefIn (some id) r lk = some x → D lk = some x := fun lk x e => hin lk x (derefIn_node_right e hir hd)
    by_cases hid : id = n
    · subst hid
      have hnx : nextOf id (Tree.node id l v r).ids = r.ids.head? := by rw [ids]; exact nextOf_split hil
      rw [hnx]
      cases r with
      | nil => exact ⟨.parent top, by simp [nextLinkAux, isNil], by simpa [ids] using htop⟩
      | node ri rl rv rr =>
        obtain ⟨m, hm⟩ := head?_ids_node ri rl rv rr
        refine ⟨minLink (.right id) (.node ri rl rv rr), by simp [nextLinkAux, isNil], ?_⟩
        rw [hm, Option.some_or, ← hm]
        exact minLink_deref (by simp) hr (hin _ _ (by simp [derefIn, fieldOf])) hinr
    · simp only [ids, List.mem_append, List.mem_cons] at hm
      by_cases hml : n ∈ l.ids
      · -- the climb out of `l` ends on `&l->parent`, which holds this node
        have hpar : D (.parent (l.rootId.getD 0)) = some (some id) := by
          cases l with
          | nil => simp [ids] at hml
          | node li ll lv lr =>
            have hli : li ≠ id := fun e => hil (by simp [ids, e])
            exact hin _ _ (by simp [derefIn, fieldOf, rootId, hli])
        obtain ⟨lk, e1, e2⟩ := nextLinkAux_spec n l _ (some id) (some id) hl hml hinl hpar
        refine ⟨lk, by simp [nextLinkAux, hid, e1], ?_⟩
        rw [e2, ids, nextOf_append, if_pos hml]; simp
      · have hmr : n ∈ r.ids := mem_right hm hid hml
        obtain ⟨lk, e1, e2⟩ := nextLinkAux_spec n r top (some id) nxt hr hmr hinr htop
        refine ⟨lk, by simp [nextLinkAux, hid, nextLinkAux_not_mem hml, e1], ?_⟩
        rw [e2, ids, nextOf_append, if_neg hml]; simp [nextOf, hid]

theorem deref_of_derefIn {t : Tree} {lk : Link} {x} (h : derefIn none t lk = some x) : deref t lk = some x := by
  obtain ⟨k, hk, _⟩ := derefIn_holder h
  cases lk <;> simp [Link.holder] at hk <;> simpa [deref] using h

theorem nextLink_spec {t : Tree} (hn : t.ids.Nodup) {n : Nat} (hm : n ∈ t.ids) :
    ∃ lk, nextLink t n = some lk ∧ deref t lk = some (nextOf n t.ids) := by
  have htop : deref t (.parent (t.rootId.getD 0)) = some none := by
    cases t with
    | nil => simp [ids] at hm
    | node id l v r => simp [deref, derefIn, fieldOf, rootId]
  obtain ⟨lk, e1, e2⟩ := nextLinkAux_spec n t _ none none hn hm (fun _ _ => deref_of_derefIn) htop
  exact ⟨lk, e1, by simpa using e2⟩

theorem minLink_root_spec {t : Tree} (hne : t ≠ .nil) (hn : t.ids.Nodup) : deref t (minLink .root t) = some t.ids.head? :=
  minLink_deref hne hn rfl fun _ _ => deref_of_derefIn

theorem valOf_not_mem {n : Nat} : ∀ {t : Tree}, n ∉ t.ids → valOf n t = none
  | .nil, _ => rfl
  | .node id l v r, h => by
    simp only [ids, List.mem_append, List.mem_cons, not_or] at h
    simp only [valOf, if_neg (Ne.symm h.2.1), valOf_not_mem h.1, valOf_not_mem h.2.2]

theorem valOf_of_mem {n : Nat} {x : Val} : ∀ {t : Tree}, t.ids.Nodup → (n, x) ∈ t.inorderN → valOf n t = some x
  | .nil, _, h => by simp [inorderN] at h
  | .node id l v r, hn, h => by
    obtain ⟨hl, hr, hil, hir, hd⟩ := nodup_node hn
    simp only [inorderN, List.mem_append, List.mem_cons] at h
    have memids : ∀ {t : Tree}, (n, x) ∈ t.inorderN → n ∈ t.ids := by
      intro t hm; rw [← inorderN_map_fst]; exact List.mem_map.mpr ⟨(n, x), hm, rfl⟩
    rcases h with h | h | h
    · have hne : id ≠ n := by intro e; subst e; exact hil (memids h)
      simp [valOf, hne, valOf_of_mem hl h]
    · cases h; simp [valOf]
    · have hne : id ≠ n := by intro e; subst e; exact hir (memids h)
      have hnl : n ∉ l.ids := hd n (memids h)
      simp [valOf, hne, valOf_not_mem hnl, valOf_of_mem hr h]

/-- (ghost) `remove_node` applied to the link that reaches the node with identity `s` -/
def removeById (s : Nat) : Tree → Option Rm
  | .nil => none
  | .node id l x r =>
    if id = s then removeNode (.node id l x r)
    else match removeById s l with
      | some rm => some (rm.wrapL id x r)
      | none => (removeById s r).map (·.wrapR id l x)

theorem removeById_not_mem {s : Nat} : ∀ {t : Tree}, s ∉ t.ids → removeById s t = none
  | .nil, _ => rfl
  | .node id l v r, h => by
    simp only [ids, List.mem_append, List.mem_cons, not_or] at h
    simp [removeById, Ne.symm h.2.1, removeById_not_mem h.1, removeById_not_mem h.2.2]

theorem removeChild_not_mem {p : Nat} {b : Bool} : ∀ {t : Tree}, p ∉ t.ids → removeChild p b t = none
  | .nil, _ => rfl
  | .node id l v r, h => by
    simp only [ids, List.mem_append, List.mem_cons, not_or] at h
    simp [removeChild, Ne.symm h.2.1, removeChild_not_mem h.1, removeChild_not_mem h.2.2]

theorem removeById_spec {s : Nat} : ∀ {t : Tree}, t.ids.Nodup → s ∈ t.ids →
    ∃ rm v, removeById s t = some rm ∧ rm.dval = v ∧ RmSpec t.inorderN rm.tree.inorderN s v rm.freed
  | .nil, _, h => by simp [ids] at h
  | .node id l x r, hn, hm => by
    obtain ⟨hl, hr, hil, hir, hd⟩ := nodup_node hn
    by_cases hid : id = s
    · subst hid
      obtain ⟨rm, e, d, sp⟩ := removeNode_spec id l x r
      exact ⟨rm, x, by simp [removeById, e], d, sp⟩
    · simp only [ids, List.mem_append, List.mem_cons] at hm
      by_cases hml : s ∈ l.ids
      · obtain ⟨rm, v, e, d, sp⟩ := removeById_spec hl hml
        exact ⟨rm.wrapL id x r, v, by simp [removeById, hid, e], d,
          by simpa [Rm.wrapL, inorderN] using sp.wrap [] ((id, x) :: r.inorderN)⟩
      · have hmr : s ∈ r.ids := mem_right hm hid hml
        obtain ⟨rm, v, e, d, sp⟩ := removeById_spec hr hmr
        exact ⟨rm.wrapR id l x, v, by simp [removeById, hid, removeById_not_mem hml, e], d,
          by simpa [Rm.wrapR, inorderN] using sp.wrap (l.inorderN ++ [(id, x)]) []⟩

theorem rootId_eq_some {t : Tree} {s : Nat} (h : t.rootId = some s) : ∃ l v r, t = .node s l v r := by
  cases t with
  | nil => simp [rootId] at h
  | node id l v r => simp [rootId] at h; subst h; exact ⟨l, v, r, rfl⟩

theorem mem_ids_of_rootId {t : Tree} {s : Nat} (h : t.rootId = some s) : s ∈ t.ids := by
  obtain ⟨l, v, r, rfl⟩ := rootId_eq_some h; simp [ids]

/-- The normalisation in `m_bst_itr_remove`, for `s` strictly below the root of `t`: `&s->parent`
gives its parent `p`, and comparing `s` with `p->right` picks the child link of `p` that reaches `s`. -/
theorem canon_inside (s : Nat) : ∀ (t : Tree) (up : Option Nat), t.ids.Nodup → s ∈ t.ids → t.rootId ≠ some s →
    ∃ p x, derefIn up t (.parent s) = some (some p) ∧ derefIn up t (.right p) = some x ∧
      removeChild p (decide (x = some s)) t = removeById s t
  | .nil, _, _, hm, _ => by simp [ids] at hm
  | .node id l v r, up, hn, hm, hroot => by
    obtain ⟨hl, hr, hil, hir, hd⟩ := nodup_node hn
    have hid : id ≠ s := by intro e; subst e; exact hroot rfl
    simp only [ids, List.mem_append, List.mem_cons] at hm
    by_cases hml : s ∈ l.ids
    · have hsr : s ∉ r.ids := fun h => hd s h hml
      by_cases hlr : l.rootId = some s
      · obtain ⟨ll, lv, lr, rfl⟩ := rootId_eq_some hlr
        refine ⟨id, r.rootId, ?_, by simp [derefIn, fieldOf], ?_⟩
        · simp [derefIn, fieldOf, Ne.symm hid]
        · have : r.rootId ≠ some s := fun e => hsr (mem_ids_of_rootId e)
          obtain ⟨rm, e, _⟩ := removeNode_spec s ll lv lr
          simp [removeChild, removeById, this, hid, e]
      · obtain ⟨p, x, e1, e2, e3⟩ := canon_inside s l (some id) hl hml hlr
        obtain ⟨k, hk, hpm⟩ := derefIn_holder e2
        simp [Link.holder] at hk; subst hk
        have hpid : id ≠ p := by intro e; subst e; exact hil hpm
        have hpr : p ∉ r.ids := fun h => hd p h hpm
        refine ⟨p, x, derefIn_node_left e1 hil, derefIn_node_left e2 hil, ?_⟩
        simp only [removeChild, if_neg hpid, removeById, if_neg hid, e3, removeChild_not_mem hpr, removeById_not_mem hsr]
        cases removeById s l <;> rfl
    · have hmr : s ∈ r.ids := mem_right hm hid hml
      by_cases hrr : r.rootId = some s
      · obtain ⟨rl, rv, rr, rfl⟩ := rootId_eq_some hrr
        refine ⟨id, some s, ?_, by simp [derefIn, fieldOf, rootId], ?_⟩
        · have : derefIn (some id) l (.parent s) = none :=
            derefIn_none (by intro k hk; simp [Link.holder] at hk; subst hk; exact hml)
          simp [derefIn, this, fieldOf, Ne.symm hid]
        · simp [removeChild, removeById, hid, removeById_not_mem hml]
      · obtain ⟨p, x, e1, e2, e3⟩ := canon_inside s r (some id) hr hmr hrr
        obtain ⟨k, hk, hpm⟩ := derefIn_holder e2
        simp [Link.holder] at hk; subst hk
        have hpid : id ≠ p := by intro e; subst e; exact hir hpm
        have hpl : p ∉ l.ids := hd p hpm
        refine ⟨p, x, derefIn_node_right e1 hir hd, derefIn_node_right e2 hir hd, ?_⟩
        simp [removeChild, hpid, removeById, hid, e3, removeChild_not_mem hpl, removeById_not_mem hml]

theorem canon_removeAt {t : Tree} (hn : t.ids.Nodup) {s : Nat} (hm : s ∈ t.ids) :
    ∃ lk, canonLink t s = some lk ∧ removeAt t lk = removeById s t := by
  by_cases hroot : t.rootId = some s
  · obtain ⟨l, v, r, rfl⟩ := rootId_eq_some hroot
    exact ⟨.root, by simp [canonLink, deref, derefIn, fieldOf], by simp [removeAt, removeById]⟩
  · obtain ⟨p, x, e1, e2, e3⟩ := canon_inside s t none hn hm hroot
    have d1 := deref_of_derefIn e1
    have d2 := deref_of_derefIn e2
    by_cases hx : x = some s
    · refine ⟨.right p, by simp [canonLink, d1, d2, hx], ?_⟩
      simpa [removeAt, hx] using e3
    · refine ⟨.left p, by simp [canonLink, d1, d2, hx], ?_⟩
      simpa [removeAt, hx] using e3

theorem last_split {B : List (Nat × Val)} {p : Nat} (h : (B.map Prod.fst).getLast? = some p) :
    ∃ B0 v, B = B0 ++ [(p, v)] := by
  rcases List.eq_nil_or_concat B with rfl | ⟨L, b, rfl⟩
  · simp at h
  · simp at h
    exact ⟨L, b.2, by subst h; simp⟩

theorem ids_split {t : Tree} {B A : List (Nat × Val)} (h : t.inorderN = B ++ A) :
    t.ids = B.map Prod.fst ++ A.map Prod.fst := by
  rw [← inorderN_map_fst, h, List.map_append]

theorem nextOf_at {t : Tree} (hn : t.ids.Nodup) {B A : List (Nat × Val)} {a : Nat × Val}
    (hs : t.inorderN = B ++ a :: A) : a.1 ∈ t.ids ∧ nextOf a.1 t.ids = A.head?.map Prod.fst := by
  have hids : t.ids = B.map Prod.fst ++ a.1 :: A.map Prod.fst := by rw [ids_split hs]; rfl
  rw [hids] at hn ⊢
  exact ⟨by simp, by rw [← List.head?_map]; exact nextOf_split fun hm => (List.nodup_append.mp hn).2.2 a.1 hm a.1 (by simp) rfl⟩

/-- Position of the iterator in the in-order sequence of (identity, value) pairs: `B` = the part
already passed (elements still in the set), `A` = what is still to come, beginning with the
current element unless that one has just been removed through the iterator. -/
def ItAt (t : Tree) (it : Itr) (B A : List (Nat × Val)) : Prop :=
  t.inorderN = B ++ A ∧ it.prev = (B.map Prod.fst).getLast? ∧
  (it.removed = false → deref t it.curr = some (A.head?.map Prod.fst) ∧ A ≠ [])

abbrev ItPos (t : Tree) (oi : Option Itr) (B A : List (Nat × Val)) : Prop :=
  (A = [] → oi = none) ∧ (A ≠ [] → ∃ it, oi = some it ∧ ItAt t it B A ∧ it.removed = false)

theorem ItPos.itAt {t : Tree} {oi : Option Itr} {B A : List (Nat × Val)} (p : ItPos t oi B A) :
    ∀ it, oi = some it → ∃ B A, ItAt t it B A := fun it e => by
  by_cases hA : A = []
  · cases (p.1 hA).symm.trans e
  · obtain ⟨_, e2, hat, _⟩ := p.2 hA
    cases e2.symm.trans e
    exact ⟨B, A, hat⟩

/-- Here and below, a result record that leaves out `fault` says that the call does not fault (the
field defaults to `false`). -/
theorem itrSettle_pos {b : Bst} {lk : Link} {B A : List (Nat × Val)} (hs : b.root.inorderN = B ++ A)
    (hd : deref b.root lk = some (A.head?.map Prod.fst)) :
    ∃ oi, itrSettle b lk (B.map Prod.fst).getLast? = { set := b, itr := oi } ∧ ItPos b.root oi B A := by
  cases A with
  | nil => exact ⟨none, by simp [itrSettle, hd], fun _ => rfl, fun e => absurd rfl e⟩
  | cons a A' =>
    refine ⟨some { curr := lk, prev := (B.map Prod.fst).getLast?, removed := false }, by simp [itrSettle, hd],
      fun e => (by cases e), fun _ => ⟨_, rfl, ⟨hs, rfl, fun _ => ⟨hd, by simp⟩⟩, rfl⟩⟩

theorem itrNew_pos {b : Bst} (hl : b.len = b.root.size) (hn : b.root.ids.Nodup) :
    ∃ oi, itrNew b = { set := b, itr := oi } ∧ ItPos b.root oi [] b.root.inorderN := by
  by_cases h : b.len = 0
  · have hr : b.root = .nil := (size_eq_zero_iff _).mp (hl ▸ h)
    exact ⟨none, by simp [itrNew, h], fun _ => rfl, fun e => absurd (by rw [hr]; rfl) e⟩
  · have hne : b.root ≠ .nil := fun e => h (by rw [hl, e]; rfl)
    have hd := minLink_root_spec hne hn
    rw [← inorderN_map_fst, List.head?_map] at hd
    have hA : b.root.inorderN ≠ [] := fun e => hne ((size_eq_zero_iff _).mp (by rw [← inorderN_length, e]; rfl))
    refine ⟨some { curr := minLink .root b.root }, by simp [itrNew, h, isNil_eq_false hne], fun e => absurd e hA,
      fun _ => ⟨_, rfl, ⟨rfl, rfl, fun _ => ⟨hd, hA⟩⟩, rfl⟩⟩

theorem itrNext_spec {b : Bst} {it : Itr} {B A : List (Nat × Val)} (hn : b.root.ids.Nodup)
    (h : ItAt b.root it B A) :
    let A₁ := if it.removed then A else A.tail
    let B₁ := if it.removed then B else B ++ A.take 1
    ∃ oi, itrNext b it = { set := b, itr := oi } ∧ ItPos b.root oi B₁ A₁ := by
  obtain ⟨hs, hp, hc⟩ := h
  cases hr : it.removed with
  | false =>
    obtain ⟨hd, hne⟩ := hc hr
    cases A with
    | nil => exact absurd rfl hne
    | cons a A' =>
      obtain ⟨hmem, hnx⟩ := nextOf_at hn hs
      obtain ⟨lk, e1, e2⟩ := nextLink_spec hn hmem
      rw [hnx] at e2
      obtain ⟨oi, e, pos⟩ := itrSettle_pos (B := B ++ [a]) (by simpa using hs) e2
      exact ⟨oi, by simpa [itrNext, hr, hd, e1] using e, by simpa using pos⟩
  | true =>
    cases hB : (B.map Prod.fst).getLast? with
    | some p =>
      obtain ⟨B0, v, rfl⟩ := last_split hB
      obtain ⟨hmem, hnx⟩ := nextOf_at (a := (p, v)) hn (by simpa using hs)
      obtain ⟨lk, e1, e2⟩ := nextLink_spec hn hmem
      rw [hnx] at e2
      obtain ⟨oi, e, pos⟩ := itrSettle_pos hs e2
      exact ⟨oi, by simpa [itrNext, hr, hp, hB, e1] using e, pos⟩
    | none =>
      obtain rfl : B = [] := by simpa using hB
      by_cases hroot : b.root = .nil
      · obtain rfl : A = [] := by simpa [hroot, inorderN] using hs.symm
        exact ⟨none, by simp [itrNext, hr, hp, hroot, isNil, itrSettle, deref, rootId], fun _ => rfl, fun e => absurd rfl e⟩
      · have e2 := minLink_root_spec hroot hn
        rw [← inorderN_map_fst, hs, List.head?_map] at e2
        obtain ⟨oi, e, pos⟩ := itrSettle_pos (B := []) hs e2
        exact ⟨oi, by simpa [itrNext, hr, hp, isNil_eq_false hroot] using e, pos⟩

theorem itrGet_spec {b : Bst} {it : Itr} {B A : List (Nat × Val)} (hn : b.root.ids.Nodup) (h : ItAt b.root it B A) :
    itrGet b it = some (if it.removed then none else A.head?.map Prod.snd) := by
  obtain ⟨hs, _, hc⟩ := h
  cases hr : it.removed with
  | true => simp [itrGet, hr]
  | false =>
    obtain ⟨hd, hne⟩ := hc hr
    cases A with
    | nil => exact absurd rfl hne
    | cons a A' =>
      have hv : valOf a.1 b.root = some a.2 := valOf_of_mem hn (by rw [hs]; simp)
      simp [itrGet, hr, hd, hv]

/-- `A''` is `A'` with the identity of its first node replaced by the current node's in the
two-children case (`remove_node` frees the successor's node); the values are the same. -/
theorem itrRemove_spec {b : Bst} {it : Itr} {B A : List (Nat × Val)} (hn : b.root.ids.Nodup)
    (h : ItAt b.root it B A) (hr : it.removed = false) :
    ∃ a A' rm A'', A = a :: A' ∧
      itrRemove b it = { set := (applyRm b rm).1, itr := some { it with removed := true }, evs := dtorEv b a.2, ret := 0 } ∧
      A''.map Prod.snd = A'.map Prod.snd ∧
      ItAt rm.tree { it with removed := true } B A'' ∧
      RmSpec b.root.inorderN rm.tree.inorderN a.1 a.2 rm.freed := by
  obtain ⟨hs, hp, hc⟩ := h
  obtain ⟨hd, hne⟩ := hc hr
  cases A with
  | nil => exact absurd rfl hne
  | cons a A' =>
    have hids := ids_split hs
    have hmem : a.1 ∈ b.root.ids := by rw [hids]; simp
    obtain ⟨lk, c1, c2⟩ := canon_removeAt hn hmem
    obtain ⟨rm, v, r1, r2, sp⟩ := removeById_spec hn hmem
    have sp0 := sp
    obtain ⟨B2, A2, e, alt⟩ := sp
    rw [hs] at e
    obtain ⟨rfl, ea, rfl⟩ := split_unique Prod.fst (a := a) (a2 := (a.1, v)) rfl (by rw [← hs, inorderN_map_fst]; exact hn) e
    obtain rfl : a.2 = v := congrArg Prod.snd ea
    have hrun : itrRemove b it = { set := (applyRm b rm).1, itr := some { it with removed := true }, evs := dtorEv b a.2, ret := 0 } := by
      simp [itrRemove, hr, hd, c1, c2, r1, applyRm, r2]
    rcases alt with ⟨e', _⟩ | ⟨w, rest, rfl, e'⟩
    · exact ⟨a, A', rm, A', rfl, hrun, rfl, ⟨e', hp, by simp⟩, sp0⟩
    · exact ⟨a, _, rm, (a.1, w) :: rest, rfl, hrun, by simp, ⟨e', hp, by simp⟩, sp0⟩

theorem itrRemove_removed {b : Bst} {it : Itr} (hr : it.removed = true) :
    itrRemove b it = { set := b, itr := some it, ret := -EINVAL } := by
  simp [itrRemove, hr]

end Lm.Struct.Bst
