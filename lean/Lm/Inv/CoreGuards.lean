import Lm.Core.Lemmas
/-! The guard prefix of a module call (`guarded`), guard by guard: a guard that fails determines a negative code and the
configuration is untouched; when all pass the call is its body.  The same for the context calls when `m_ctx()` yields nothing. -/
namespace Lm.Core

theorem modAssert_neg (s : St) (m : ModId) (e : Int) (h : modAssert s m = some e) : e < 0 := by
  unfold modAssert at h
  have hneg : EINVAL < 0 ∧ EACCES < 0 ∧ EPERM < 0 := by decide
  split at h
  · cases h; exact hneg.1
  · split at h
    · cases h; exact hneg.2.1
    · split at h
      · cases h; exact hneg.2.2
      · split at h
        · cases h
        · cases h; exact hneg.2.2

theorem modAssert_zombie {s : St} {m : ModId} {md : Mod} (hm : s.mods[m]? = some md) (hz : md.state = .zombie) :
    modAssert s m = some EACCES := by
  simp [modAssert, hm, hz]

theorem runP_guarded (m : ModId) (deny : ModFlags → Bool) (mask : Option (List MState)) (tok : Bool) (body : Prog Int) (s : St) :
    runP (guarded m deny mask tok body) s =
      match modAssert s m with
      | some e => (s, .inl e)
      | none =>
        match s.mods[m]? with
        | none => (s, .inl EINVAL)
        | some md =>
          if deny md.flags then (s, .inl EPERM)
          else if (match mask with | some l => !l.contains md.state | none => false) then (s, .inl EACCES)
          else if tok then
            match consumeToken s m with
            | none => (s, .inl EAGAIN)
            | some s' => runP body s'
          else runP body s := by
  unfold guarded
  rw [runP_getSt_bind]
  cases modAssert s m with
  | some e => rfl
  | none =>
    cases s.mods[m]? with
    | none => rfl
    | some md =>
      simp only [apply_ite (fun p : Prog Int => runP p s)]
      cases consumeToken s m <;> rfl

theorem guarded_refuses_assert (s : St) (m : ModId) (e : Int) (deny mask tok) (body : Prog Int)
    (h : modAssert s m = some e) : Refuses (guarded m deny mask tok body) s e := by
  rw [Refuses, runP_guarded, h]

/-- the two entry points that do not go through `guarded` start with `M_MOD_ASSERT` as well -/
theorem start_refuses_assert (s : St) (m : ModId) (e : Int) (h : modAssert s m = some e) : Refuses (apiStart m) s e := by
  simp [Refuses, apiStart, h]

theorem dereg_refuses_assert (s : St) (m : ModId) (e : Int) (auto : Prog Int) (h : modAssert s m = some e) :
    Refuses (modDeregCore auto m) s e := by
  simp [Refuses, modDeregCore, h]

theorem guarded_refuses_perm (s : St) (m : ModId) (md : Mod) (deny mask tok) (body : Prog Int)
    (hm : s.mods[m]? = some md) (hd : deny md.flags = true) :
    ∃ code : Int, code < 0 ∧ Refuses (guarded m deny mask tok body) s code := by
  cases hma : modAssert s m with
  | some e => exact ⟨e, modAssert_neg s m e hma, guarded_refuses_assert s m e _ _ _ _ hma⟩
  | none => exact ⟨EPERM, by decide, by simp [Refuses, runP_guarded, hma, hm, hd]⟩

theorem guarded_refuses_state (s : St) (m : ModId) (md : Mod) (deny mask tok) (body : Prog Int)
    (hm : s.mods[m]? = some md) (hs : !mask.contains md.state) :
    ∃ code : Int, code < 0 ∧ Refuses (guarded m deny (some mask) tok body) s code := by
  by_cases hd : deny md.flags = true
  · exact guarded_refuses_perm s m md _ _ _ _ hm hd
  · cases hma : modAssert s m with
    | some e => exact ⟨e, modAssert_neg s m e hma, guarded_refuses_assert s m e _ _ _ _ hma⟩
    | none =>
      have hnm : ¬ md.state ∈ mask := by simpa using hs
      exact ⟨EACCES, by decide, by simp [Refuses, runP_guarded, hma, hm, hd, hnm]⟩

theorem guarded_refuses_zombie (s : St) (m : ModId) (md : Mod) (deny mask tok) (body : Prog Int)
    (hm : s.mods[m]? = some md) (hz : md.state = .zombie) :
    Refuses (guarded m deny mask tok body) s EACCES :=
  guarded_refuses_assert s m EACCES _ _ _ _ (modAssert_zombie hm hz)

theorem guarded_pass (s : St) (m : ModId) (md : Mod) (deny mask tok) (body : Prog Int)
    (hm : s.mods[m]? = some md) (hma : modAssert s m = none) (hd : deny md.flags = false)
    (hmask : (match mask with | some l => !l.contains md.state | none => false) = false) :
    runP (guarded m deny mask tok body) s =
      if tok then (match consumeToken s m with | none => (s, .inl EAGAIN) | some s' => runP body s') else runP body s := by
  simp only [runP_guarded, hma, hm, hd, hmask, Bool.false_eq_true, if_false]

theorem guarded_pass_tok (s s' : St) (m : ModId) (md : Mod) (deny mask) (body : Prog Int)
    (hm : s.mods[m]? = some md) (hma : modAssert s m = none) (hd : deny md.flags = false)
    (hmask : (match mask with | some l => !l.contains md.state | none => false) = false)
    (ht : consumeToken s m = some s') : runP (guarded m deny mask true body) s = runP body s' := by
  rw [guarded_pass s m md deny mask true body hm hma hd hmask, if_pos rfl, ht]

theorem guarded_pass_notok (s : St) (m : ModId) (md : Mod) (deny mask) (body : Prog Int)
    (hm : s.mods[m]? = some md) (hma : modAssert s m = none) (hd : deny md.flags = false)
    (hmask : (match mask with | some l => !l.contains md.state | none => false) = false) :
    runP (guarded m deny mask false body) s = runP body s := by
  rw [guarded_pass s m md deny mask false body hm hma hd hmask]; rfl

theorem guarded_refuses_token (s : St) (m : ModId) (md : Mod) (deny) (mask : Option (List MState)) (body : Prog Int)
    (hm : s.mods[m]? = some md) (hma : modAssert s m = none) (hd : deny md.flags = false)
    (hmask : (match mask with | some l => !l.contains md.state | none => false) = false)
    (tb : TB) (htb : md.tb = some tb) (h0 : tb.tokens = 0) :
    Refuses (guarded m deny mask true body) s EAGAIN := by
  rw [Refuses, guarded_pass s m md deny mask true body hm hma hd hmask, if_pos rfl]
  simp [consumeToken, hm, htb, h0]

theorem ctx_calls_refused (s : St) (h : mctx s = none) :
    Refuses ctxDeregisterP s EPIPE ∧ Refuses apiFinalize s EPIPE ∧ Refuses apiDispatch s EPIPE ∧ Refuses apiLoop s EPIPE ∧
    (∀ c, Refuses (apiQuit c) s EPIPE) ∧ Refuses apiCtxLen s EPIPE ∧ (∀ n, Refuses (apiSetTick n) s EPIPE) ∧
    (∀ n sl f hk, n ≠ "" → Refuses (apiRegister n sl f hk) s EPIPE) := by
  refine ⟨?_, ?_, ?_, ?_, ?_, ?_, ?_, ?_⟩
  · simp [Refuses, ctxDeregisterP, h]
  · simp [Refuses, apiFinalize, h]
  · simp [Refuses, apiDispatch, h]
  · simp [Refuses, apiLoop, h]
  · intro c; simp [Refuses, apiQuit, h]
  · simp [Refuses, apiCtxLen, h]
  · intro n; simp [Refuses, apiSetTick, h]
  · intro n sl f hk hn
    simp [Refuses, apiRegister, h, String.isEmpty_eq_false_iff.mpr hn]

end Lm.Core
