import Lm.Inv.ThpoolAll
/-!
# Deadlock freedom of the thread-pool transition system

In every reachable state that is not final some thread can take a step that is neither a spurious
wake-up nor a new API call of a submitter (the only API call that may be needed is the `free` of
thread 0).
-/
namespace Lm.Thpool
variable {s : State}

/-- the label thread `t` can fire next (`fresh`: an unused thread id for `pthread_create`) -/
def nextAct (s : State) (t : Tid) (fresh : Tid) : Act :=
  match s.pc t with
  | .wLock | .sLock | .nLock | .fLock => .lock
  | .wLoop | .wBreakLen => .qlen s.tasks.length
  | .wWait | .fWait => .wait
  | .wWaiting | .fWaiting => .reacq
  | .wBreakChk | .wInc | .wDec | .wExitDec | .sShutChk | .sLazy0 | .nShutChk | .nLazy0 | .fSetShut | .fAliveChk | .fJoinInit => .tau
  | .wDequeue => .deq (s.tasks.headD 0)
  | .wUnlock | .wExitUnlock | .sFailUnlock | .sPermUnlock | .sUnlock | .nFailUnlock | .nPermUnlock | .nUnlock | .fUnlock => .unlock
  | .wCall => .taskStart (s.cur t) (s.task (s.cur t)).arg
  | .wInTask => .taskEnd (s.cur t)
  | .wExitBcast | .fBcast => .broadcast
  | .wRet => .exit
  | .sLazy1 | .sLazy2 | .nLazy1 | .nLazy2 => .tlen s.threads.length
  | .sCreate | .nCreate | .mNewCreate => .create fresh
  | .sInsert | .nInsert | .mNewInsert => .tins (s.newTh t)
  | .sEnq => .enq (s.cur t)
  | .nEnq => .enq (s.addK t)
  | .sSignal | .nSignal => .signal s.waiters.head?
  | .sRetOk | .nRetOk => .addRet 0
  | .sRetPerm | .nRetPerm => .addRet EPERM
  | .sRetFail | .nRetFail => .addRet EAGAIN
  | .mNewRet => .newRet true
  | .mIdle => .freeCall true
  | .fJoin => match s.joinRest with
    | [] => .tau
    | j :: _ => .join j
  | .fCondDestroy => .destroyCond
  | .fMutDestroy => .destroyMutex
  | .fQueueFree => .qfree s.tasks
  | .fListFree => .tfree
  | .fFreePool => .freePool
  | .fRet => if s.newFailed then .newRet false else .freeRet
  | .none | .sIdle | .wDone | .mDone => .tau

/-- the guard of `nextAct` -/
def ready (s : State) (t : Tid) : Prop :=
  match s.pc t with
  | .none | .sIdle | .wDone | .mDone => False
  | .wLock | .sLock | .nLock | .fLock => s.lockOwner = none
  | .wWaiting | .fWaiting => t ∉ s.waiters ∧ s.lockOwner = none
  | .wDequeue => s.tasks ≠ []
  | .mIdle => s.adding = []
  | .fJoin => match s.joinRest with
    | [] => True
    | j :: _ => s.pc j = .wDone
  | _ => True

theorem step_of_ready (t fresh : Tid) (hf : fresh ≠ 0 ∧ s.pc fresh = .none) (hr : ready s t) :
    ∃ s', step s ⟨t, nextAct s t fresh⟩ = some s' ∧ pre s ⟨t, nextAct s t fresh⟩ = true ∧
      nextAct s t fresh ≠ .spurious ∧ ∀ k v, nextAct s t fresh ≠ .addCall k v := by
  -- first the program counters whose label depends on data (`sSignal`/`nSignal`: the waiters; `fJoin`: `joinRest`; `fRet`:
  -- `newFailed`), then `step` evaluated at every other program counter under its guard `hr`
  by_cases h1 : s.pc t = .sSignal
  · cases hw : s.waiters <;> simp [step, nextAct, pre, h1, hw]
  by_cases h1n : s.pc t = .nSignal
  · cases hw : s.waiters <;> simp [step, nextAct, pre, h1n, hw]
  by_cases h2 : s.pc t = .fJoin
  · cases hj : s.joinRest <;> simp [ready, h2, hj] at hr <;> simp [step, nextAct, pre, h2, hj, hr]
  by_cases h3 : s.pc t = .fRet
  · cases hn : s.newFailed <;> simp [step, nextAct, pre, h3, hn]
  unfold ready at hr
  unfold step nextAct pre
  cases hpc : s.pc t <;> simp [hpc] at hr h1 h1n h2 h3 ⊢ <;> (try simp [hr, hf]) <;> (try (split <;> simp_all))

/-- nothing is left to do: `free` has returned, every worker has returned, no `add` is in progress -/
def final (s : State) : Prop :=
  s.pc 0 = .mDone ∧ ∀ u, u ≠ 0 → (s.pc u = .none ∨ s.pc u = .sIdle ∨ s.pc u = .wDone)

def idle : Pc → Bool
  | .none | .sIdle | .wDone | .mDone => true
  | _ => false

theorem ready_of_owner (hi : Inv s) (t : Tid) (hl : s.lockOwner = some t) : ready s t := by
  have h1 := hi.owner t hl
  have h2 := hi.deqNonempty t
  unfold ready
  cases hpc : s.pc t <;> simp [hpc] at h1 h2 ⊢
  exact h2

theorem ready_of_free (hi : Inv s) (hl : s.lockOwner = none) (u : Tid) (h1 : idle (s.pc u) = false)
    (h2 : s.pc u ≠ .mIdle) (h3 : s.pc u ≠ .fJoin) (h4 : waitingPc (s.pc u) = true → u ∉ s.waiters) : ready s u := by
  have hm := hi.mutex u
  rw [hl] at hm
  unfold ready
  cases hpc : s.pc u <;> simp [hpc, idle] at h1 h2 h3 h4 hm ⊢ <;> first | exact hl | exact ⟨h4, hl⟩

/-- after the broadcast of `wait_pool` no worker is in the wait set (`bcastDone`): with the mutex free, a worker that has
not returned can move -/
theorem worker_ready (hi : Inv s) (hl : s.lockOwner = none) (hb : 6 ≤ ph (s.pc 0)) (u : Tid) (hw : isW (s.pc u) = true)
    (hd : s.pc u ≠ .wDone) : ready s u := by
  have hne : u ≠ 0 := fun e => by
    have := isW_not_isM _ hw; rw [e, hi.mainIsM] at this; cases this
  apply ready_of_free hi hl u
  · revert hw hd; cases s.pc u <;> simp [idle]
  · intro e; simp [e] at hw
  · intro e; simp [e] at hw
  · intro _ hmem; exact hne (hi.bcastDone hb u hmem)

/-- If the mutex is held its owner can move.  Else, by where thread 0 is: at `mDone`, some other thread is not at rest;
at `mIdle`, a submitter inside `m_thpool_add`, or thread 0's `free`; at `fJoin`, the join or the worker to be joined; in
the wait set of `wait_pool`, a worker before its `alive--` (`alive = 0` would contradict `mainWait`); otherwise thread 0
itself. -/
theorem exists_ready (hi : Inv s) (hnf : ¬ final s) : ∃ t, ready s t := by
  cases hl : s.lockOwner with
  | some t => exact ⟨t, ready_of_owner hi t hl⟩
  | none =>
    by_cases hD : s.pc 0 = .mDone
    · have : ¬ ∀ u, u ≠ 0 → (s.pc u = .none ∨ s.pc u = .sIdle ∨ s.pc u = .wDone) := fun h => hnf ⟨hD, h⟩
      obtain ⟨u, hu⟩ := Classical.not_forall.mp this
      have hu0 : u ≠ 0 := fun e => hu (fun h => absurd e h)
      have hrest : ¬ (s.pc u = .none ∨ s.pc u = .sIdle ∨ s.pc u = .wDone) := fun h => hu (fun _ => h)
      have hM := hi.othersNotM u hu0
      refine ⟨u, ready_of_free hi hl u ?_ ?_ ?_ ?_⟩
      · revert hrest hM; cases s.pc u <;> simp [idle]
      · intro e; simp [e] at hM
      · intro e; simp [e] at hM
      · intro _ hmem; exact hu0 (hi.bcastDone (by simp [hD]) u hmem)
    by_cases hI : s.pc 0 = .mIdle
    · cases ha : s.adding with
      | nil => exact ⟨0, by simp [ready, hI, ha]⟩
      | cons u us =>
        have hS := (hi.addingIff u).mp (by simp [ha])
        refine ⟨u, ready_of_free hi hl u ?_ ?_ ?_ ?_⟩
        · revert hS; cases s.pc u <;> simp [idle]
        · intro e; simp [e] at hS
        · intro e; simp [e] at hS
        · intro hw; revert hS hw; cases s.pc u <;> simp
    by_cases hJ : s.pc 0 = .fJoin
    · cases hj : s.joinRest with
      | nil => exact ⟨0, by simp [ready, hJ, hj]⟩
      | cons j js =>
        by_cases hd : s.pc j = .wDone
        · exact ⟨0, by simp [ready, hJ, hj, hd]⟩
        · have hm := hi.joinSub hJ j (by simp [hj])
          have hw := (hi.workersIff j).mp (hi.thrSub j hm)
          exact ⟨j, worker_ready hi hl (by simp [hJ]) j hw hd⟩
    by_cases hW : s.pc 0 = .fWaiting
    · by_cases hmem : 0 ∈ s.waiters
      · by_cases ha : s.alive = 0
        · obtain ⟨u, hu⟩ := hi.mainWait hW hmem ha
          have := hi.mutex u (by simp [hu])
          rw [hl] at this; cases this
        · have hc := hi.aliveCnt (by simp [hW])
          have hpos : 0 < s.threads.countP (fun u => beforeDec (s.pc u)) := by omega
          obtain ⟨u, hmu, hbu⟩ := List.countP_pos_iff.mp hpos
          have hw := beforeDec_isW _ hbu
          refine ⟨u, worker_ready hi hl (by simp [hW]) u hw ?_⟩
          intro e; simp [e] at hbu
      · exact ⟨0, by simp [ready, hW, hmem, hl]⟩
    · refine ⟨0, ready_of_free hi hl 0 ?_ hI hJ ?_⟩
      · have := hi.mainIsM; revert this hD; cases s.pc 0 <;> simp [idle]
      · intro hw; have := hi.mainIsM; revert this hw hW; cases s.pc 0 <;> simp

theorem progress (hi : Inv s) (hnf : ¬ final s) :
    ∃ t a s', step s ⟨t, a⟩ = some s' ∧ pre s ⟨t, a⟩ = true ∧ a ≠ .spurious ∧ ∀ k v, a ≠ .addCall k v := by
  obtain ⟨t, hr⟩ := exists_ready hi hnf
  obtain ⟨N, hN⟩ := hi.finSupp
  have hf : (N + 1) ≠ 0 ∧ s.pc (N + 1) = .none := ⟨by omega, hN (N + 1) (by omega)⟩
  obtain ⟨s', h1, h2, h3, h4⟩ := step_of_ready t (N + 1) hf hr
  exact ⟨t, _, s', h1, h2, h3, h4⟩

end Lm.Thpool
