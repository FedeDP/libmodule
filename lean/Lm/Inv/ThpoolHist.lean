import Lm.Inv.ThpoolAll
/-! Histories (label sequences): splitting, and facts that never change once established. -/
namespace Lm.Thpool

/-- `s` is reached from the initial state of `c` by the history `ls`, every API call of which
respects its precondition -/
def Hist (c : Cfg) (ls : List Label) (s : State) : Prop :=
  okRun (init c) ls = true ∧ run (init c) ls = some s

theorem run_append (s : State) (l1 l2 : List Label) :
    run s (l1 ++ l2) = (run s l1).bind (fun s1 => run s1 l2) := by
  induction l1 generalizing s with
  | nil => simp [run]
  | cons l ls ih =>
    simp only [List.cons_append, run]
    cases step s l with
    | none => simp
    | some s1 => simpa using ih s1

theorem okRun_append (s s1 : State) (l1 l2 : List Label) (h : run s l1 = some s1) :
    okRun s (l1 ++ l2) = (okRun s l1 && okRun s1 l2) := by
  induction l1 generalizing s with
  | nil => simp [run] at h; subst h; simp [okRun]
  | cons l ls ih =>
    simp only [run] at h
    simp only [List.cons_append, okRun]
    cases hs : step s l with
    | none => simp [hs] at h
    | some s2 =>
      simp only [hs] at h ⊢
      rw [ih s2 h, Bool.and_assoc]

theorem hist_inv {c : Cfg} (hc : 0 < c.maxThreads) {ls : List Label} {s : State} (h : Hist c ls s) : Inv s :=
  inv_reach hc (reach_of_run ls _ _ Reach.init h.1 h.2)

theorem hist_cfg {c : Cfg} {ls : List Label} {s : State} (h : Hist c ls s) : s.cfg = c :=
  reach_cfg (reach_of_run ls _ _ Reach.init h.1 h.2)

theorem hist_split {c : Cfg} {l1 l2 : List Label} {s : State} (h : Hist c (l1 ++ l2) s) :
    ∃ s1, Hist c l1 s1 ∧ run s1 l2 = some s ∧ okRun s1 l2 = true := by
  have hr := h.2
  rw [run_append] at hr
  cases h1 : run (init c) l1 with
  | none => simp [h1] at hr
  | some s1 =>
    simp [h1] at hr
    have hk := h.1
    rw [okRun_append _ s1 _ _ h1, Bool.and_eq_true] at hk
    exact ⟨s1, ⟨hk.1, h1⟩, hr, hk.2⟩

theorem hist_snoc {c : Cfg} {ls : List Label} {s s' : State} {l : Label} (h : Hist c ls s)
    (hp : pre s l = true) (hs : step s l = some s') : Hist c (ls ++ [l]) s' := by
  refine ⟨?_, ?_⟩
  · rw [okRun_append _ s _ _ h.2, h.1]; simp [okRun, hp, hs]
  · rw [run_append, h.2]; simp [run, hs]

theorem stable_step {s s' : State} {l : Label} (h : step s l = some s') (k : TaskId) :
    ((s.task k).submitted = true → (s'.task k).submitted = true ∧ (s'.task k).arg = (s.task k).arg) ∧
    ((s.task k).discarded = true → (s'.task k).discarded = true) := by
  rcases (Step.of_step h).task_cases k with ⟨e, _⟩ | ⟨e, _⟩ | ⟨e, _⟩ | ⟨e, _⟩ | ⟨⟨a, e⟩, hs, _⟩ | ⟨e, _⟩ | ⟨e, _⟩
  iterate 4 exact e ▸ ⟨fun hk => ⟨hk, rfl⟩, id⟩
  · -- the one write to `submitted` and `arg` needs a task that was not submitted before
    exact ⟨fun hk => absurd (hs ▸ hk) nofun, fun hk => by rw [e]; exact hk⟩
  · exact e ▸ ⟨fun hk => ⟨hk, rfl⟩, id⟩
  · exact e ▸ ⟨fun hk => ⟨hk, rfl⟩, fun _ => rfl⟩

theorem stable_run (k : TaskId) : ∀ (ls : List Label) (s s' : State), run s ls = some s' →
    ((s.task k).submitted = true → (s'.task k).submitted = true ∧ (s'.task k).arg = (s.task k).arg) ∧
    ((s.task k).discarded = true → (s'.task k).discarded = true)
  | [], s, s', h => by simp [run] at h; subst h; exact ⟨fun h => ⟨h, rfl⟩, fun h => h⟩
  | l :: ls, s, s', h => by
    simp only [run] at h
    cases hs : step s l with
    | none => simp [hs] at h
    | some s1 =>
      simp only [hs] at h
      have a := stable_step hs k
      have b := stable_run k ls s1 s' h
      refine ⟨fun hh => ?_, fun hh => b.2 (a.2 hh)⟩
      have a1 := a.1 hh
      have b1 := b.1 a1.1
      exact ⟨b1.1, b1.2.trans a1.2⟩

theorem addCall_effect {s s' : State} {t : Tid} {k : TaskId} {a : Nat} (h : step s ⟨t, .addCall k a⟩ = some s') :
    (s'.task k).submitted = true ∧ (s'.task k).arg = a ∧ (s.task k).submitted = false := by
  cases Step.of_step h <;> exact ⟨by simp, by simp, ‹_›⟩


theorem nodup_map_of_inj {α β : Type} (f : α → β) (l : List α) (hn : l.Nodup) (hinj : ∀ a ∈ l, ∀ b ∈ l, f a = f b → a = b) :
    (l.map f).Nodup :=
  List.pairwise_map.mpr (hn.imp_of_mem fun ha hb hne e => hne (hinj _ ha _ hb e))

end Lm.Thpool
