import Lm.Inv.ThpoolInv
/-!
Preservation of the control-flow invariants: roles, mutex, condition variable, submitters, shutdown.
-/
namespace Lm.Thpool
variable {s s' : State} {l : Label} {u : Tid}

theorem mainIsM_step (hi : Inv s) (h : Step s l s') : isM (s'.pc 0) = true := by
  rw [h.isM_pc]; exact hi.mainIsM

theorem othersNotM_step (hi : Inv s) (h : Step s l s') : ∀ u, u ≠ 0 → isM (s'.pc u) = false := by
  intro u hu
  rw [h.isM_pc]; exact hi.othersNotM u hu

theorem mutex_step (hi : Inv s) (h : Step s l s') : ∀ u, holds (s'.pc u) = true → s'.lockOwner = some u := by
  intro u hu
  by_cases ht : u = l.tid
  · subst ht
    rcases h.lock_cases with ⟨e, ep⟩ | ⟨_, e, _⟩ | ⟨_, _, ep⟩
    · rw [e]; exact hi.mutex _ (ep ▸ hu)
    · exact e
    · rw [ep] at hu; cases hu
  · -- `u` held the mutex before, so the moving thread neither found it free nor released it
    rw [h.cls_other ht holds rfl] at hu
    have ho := hi.mutex u hu
    rcases h.lock_cases with ⟨e, _⟩ | ⟨e, _⟩ | ⟨hl, _⟩
    · rwa [e]
    · rw [e] at ho; cases ho
    · exact (ht (holder_unique hi hu hl)).elim

theorem owner_step (hi : Inv s) (h : Step s l s') : ∀ u, s'.lockOwner = some u → holds (s'.pc u) = true := by
  intro u hu
  rcases h.lock_cases with ⟨e, ep⟩ | ⟨_, e, ep⟩ | ⟨_, e, _⟩
  · have ho := hi.owner u (e ▸ hu)
    by_cases ht : u = l.tid
    · subst ht; rwa [ep]
    · rwa [h.cls_other ht holds rfl]
  · rw [e] at hu; cases hu; exact ep
  · rw [e] at hu; cases hu

theorem waitPc_step (hi : Inv s) (h : Step s l s') : ∀ u, u ∈ s'.waiters → waitingPc (s'.pc u) = true := by
  intro u hu
  by_cases hm : u ∈ s.waiters
  · have hw := hi.waitPc u hm
    by_cases ht : u = l.tid
    · -- inside `pthread_cond_wait` and still in the wait set, `u` can only wake up spuriously, and stays inside
      subst ht
      cases h <;> simp only [*] at hw <;> try contradiction
      case wSpurious hp _ | fSpurious hp _ => exact (congrArg waitingPc hp).trans hw
    · rwa [h.cls_other ht waitingPc rfl]
  · rcases h.waiters_cases with e | e | ⟨w, e⟩ | ⟨e, _, hw⟩ <;> rw [e] at hu
    · exact absurd hu hm
    · cases hu
    · exact absurd (List.mem_of_mem_erase hu) hm
    · rcases List.mem_cons.mp hu with rfl | hu
      · exact hw
      · exact absurd hu hm

theorem waitNodup_step (hi : Inv s) (h : Step s l s') : s'.waiters.Nodup := by
  rcases h.waiters_cases with e | e | ⟨w, e⟩ | ⟨e, hp, _⟩ <;> rw [e]
  · exact hi.waitNodup
  · exact List.nodup_nil
  · exact hi.waitNodup.erase w
  · refine List.nodup_cons.mpr ⟨fun hm => ?_, hi.waitNodup⟩
    have := hi.waitPc _ hm
    rcases hp with e | e <;> rw [e] at this <;> cases this

theorem addingIff_step (hi : Inv s) (h : Step s l s') : ∀ u, u ∈ s'.adding ↔ isS (s'.pc u) = true := by
  intro u
  by_cases ht : u = l.tid
  · subst ht
    rcases h.adding_cases with ⟨e, ep⟩ | ⟨e, ep, _⟩ | ⟨e, ep⟩ <;> rw [e, ep]
    · exact hi.addingIff _
    · simp
    · simp [hi.addingNodup.mem_erase_iff]
  · rw [h.cls_other ht isS rfl, ← hi.addingIff u]
    rcases h.adding_cases with ⟨e, _⟩ | ⟨e, _⟩ | ⟨e, _⟩ <;> rw [e]
    · simp [ht]
    · exact List.mem_erase_of_ne ht

theorem addingNodup_step (hi : Inv s) (h : Step s l s') : s'.adding.Nodup := by
  rcases h.adding_cases with ⟨e, _⟩ | ⟨e, _, hp, _⟩ | ⟨e, _⟩ <;> rw [e]
  · exact hi.addingNodup
  · refine List.nodup_cons.mpr ⟨fun hm => ?_, hi.addingNodup⟩
    have := (hi.addingIff _).mp hm
    rcases hp with e | e <;> rw [e] at this <;> cases this
  · exact hi.addingNodup.erase _

theorem liveHandle_step (hi : Inv s) (hp : pre s l = true) (h : Step s l s') :
    ∀ u, isS (s'.pc u) = true → s'.pc 0 = .mIdle := by
  intro u hu
  have hm := mainIsM_step hi h
  by_cases h0 : l.tid = 0
  · -- thread 0 moves: a submitter is inside already, so thread 0 is at `mIdle`, where it can only call
    -- `m_thpool_free`, and the precondition of that call is that no submitter is inside
    have hne : u ≠ l.tid := fun e => by
      have := not_isM_of_isS _ hu
      rw [e, h0, hm] at this; cases this
    rw [h.cls_other hne isS rfl] at hu
    have hi0 := hi.liveHandle u hu
    rw [← h0] at hi0
    cases h <;> simp only [*] at hi0 <;> try contradiction
    case mIdle =>
      simp only [pre, List.isEmpty_iff] at hp
      have hin := (hi.addingIff u).mpr hu
      rw [hp] at hin; cases hin
  · rw [h.pc_other (Ne.symm h0) (by intro e; rw [e] at hm; cases hm)]
    by_cases ht : u = l.tid
    · -- `u` was inside `m_thpool_add` before, or enters it by a call that meets the precondition
      subst ht
      rcases h.adding_cases with ⟨_, ep⟩ | ⟨_, _, hc, k, a, ea⟩ | ⟨_, ep⟩
      · exact hi.liveHandle _ (ep ▸ hu)
      · simp only [pre, ea, Bool.or_eq_true, beq_iff_eq] at hp
        exact hp.resolve_right fun e => by rcases hc with c | c <;> rw [c] at e <;> cases e
      · rw [ep] at hu; cases hu
    · exact hi.liveHandle u (h.cls_other ht isS rfl ▸ hu)

theorem shut_step (hi : Inv s) (h : Step s l s') :
    (ph (s'.pc 0) ≤ 4 → s'.shutdown = .no) ∧
    (5 ≤ ph (s'.pc 0) → s'.shutdown = (if s'.mode then .waitAll else .waitCurr)) := by
  by_cases h0 : l.tid = 0
  · have ih1 := hi.shutNo
    have ih2 := hi.shutSet
    rw [← h0] at ih1 ih2 ⊢
    rcases h.shutdown_cases with ⟨e, hle⟩ | ⟨_, e, em, h5⟩
    · refine ⟨fun hh => e ▸ ih1 (hle.mp hh), fun hh => ?_⟩
      -- from phase 5 on `mode` is not written
      have em : s'.mode = s.mode := h.mode_cases.resolve_right fun ep => by rw [ep] at hh; simp at hh
      rw [e, em]
      exact ih2 (Nat.lt_of_not_le fun hs => by have := hle.mpr hs; omega)
    · exact ⟨fun hh => by omega, fun _ => by rw [e, em]⟩
  · -- another thread is not in the code of `m_thpool_free`
    have hnm : isM (s.pc l.tid) = false := hi.othersNotM _ h0
    rw [h.cls_other (Ne.symm h0) ph rfl,
      (h.shutdown_cases.resolve_right (fun e => by rw [e.1] at hnm; cases hnm)).1,
      (h.main_frame hnm).1]
    exact ⟨hi.shutNo, hi.shutSet⟩

end Lm.Thpool
