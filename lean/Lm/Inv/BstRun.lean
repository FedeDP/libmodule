import Lm.Inv.BstItr
/-! What each API call, the client's iteration loop and a whole script do to a set that satisfies
the invariant `SetInv`. -/
namespace Lm.Struct.Bst
open Tree

structure SetInv (cmp : Val → Val → Int) (b : Bst) : Prop where
  ord : Ordered cmp b.root
  len : b.len = b.root.size
  nodup : b.root.ids.Nodup
  fresh : ∀ k ∈ b.root.ids, k < b.nextId

theorem SetInv.nil (cmp) (d : Bool) (n : Nat) : SetInv cmp { root := .nil, len := 0, dtor := d, nextId := n } :=
  ⟨by simp [Ordered], rfl, by simp [ids], by simp [ids]⟩

def dtorEvs (d : Bool) (vs : List Val) : List Ev := if d then vs.map Ev.dtor else []

theorem dtorEv_eq (b : Bst) (v : Val) : dtorEv b v = dtorEvs b.dtor [v] := by
  simp [dtorEv, dtorEvs]

theorem dtorEvs_append (d : Bool) (xs ys : List Val) : dtorEvs d (xs ++ ys) = dtorEvs d xs ++ dtorEvs d ys := by
  cases d <;> simp [dtorEvs]

@[simp] theorem dtorEvs_nil (d : Bool) : dtorEvs d [] = [] := by cases d <;> simp [dtorEvs]

def dtorVals (evs : List Ev) : List Val := evs.filterMap (fun e => match e with | .dtor v => some v | _ => none)

@[simp] theorem dtorVals_append (a b : List Ev) : dtorVals (a ++ b) = dtorVals a ++ dtorVals b := by
  simp [dtorVals, List.filterMap_append]

theorem dtorVals_dtorEvs (d : Bool) (vs : List Val) : dtorVals (dtorEvs d vs) = if d then vs else [] := by
  cases d <;> simp [dtorEvs, dtorVals, List.filterMap_map, Function.comp_def]

@[simp] theorem dtorVals_ret (c : Int) : dtorVals [.ret c] = [] := rfl
@[simp] theorem dtorVals_nil : dtorVals [] = [] := rfl

@[simp] theorem dtorVals_cons (e : Ev) (l : List Ev) :
    dtorVals (e :: l) = (match e with | .dtor v => [v] | _ => []) ++ dtorVals l := by
  cases e <;> rfl

/-- `b'` is `b` after a call during which the values `gone` left the set, each one handed to the
destructor if there is one (that is all of `evs`), and the values `new` joined it -/
structure Moved (cmp : Val → Val → Int) (b b' : Bst) (evs : List Ev) (new : List Val) : Prop where
  inv : SetInv cmp b'
  dtor : b'.dtor = b.dtor
  bal : ∃ gone, dtorVals evs = (if b.dtor then gone else []) ∧ (b'.root.inorder ++ gone).Perm (b.root.inorder ++ new)

theorem Moved.refl {cmp} {b : Bst} (hi : SetInv cmp b) : Moved cmp b b [] [] :=
  ⟨hi, rfl, [], by simp, .refl _⟩

theorem SetInv.ins {cmp} (h : TotalOrderCmp cmp) {b : Bst} (hi : SetInv cmp b) {v : Val} {t : Tree}
    (ht : insert cmp b.nextId v b.root = some t) :
    Moved cmp b { b with root := t, len := b.len + 1, nextId := b.nextId + 1 } [] [v] := by
  have hp := insert_perm ht
  have hids : t.ids.Perm (b.nextId :: b.root.ids) := by simpa using hp.map Prod.fst
  have hvals : t.inorder.Perm (v :: b.root.inorder) := by simpa using hp.map Prod.snd
  refine ⟨⟨insert_ordered h hi.ord ht, ?_, ?_, ?_⟩, rfl, [], by simp, ?_⟩
  · simpa [hi.len] using hids.length_eq.symm
  · exact hids.nodup_iff.mpr (List.nodup_cons.mpr ⟨fun hm => Nat.lt_irrefl _ (hi.fresh _ hm), hi.nodup⟩)
  · intro k hk
    rcases List.mem_cons.mp (hids.mem_iff.mp hk) with rfl | hk
    · exact Nat.lt_succ_self _
    · exact Nat.lt_succ_of_lt (hi.fresh k hk)
  · simpa using hvals.trans (List.perm_append_comm (l₁ := [v]))

theorem bstInsert_cases (cmp : Val → Val → Int) (b : Bst) (v : Val) :
    (∃ c, c ≠ 0 ∧ bstInsert cmp b v = (b, c)) ∨
    (∃ t, insert cmp b.nextId v b.root = some t ∧
      bstInsert cmp b v = ({ b with root := t, len := b.len + 1, nextId := b.nextId + 1 }, 0)) := by
  unfold bstInsert
  split
  · exact .inl ⟨_, by decide, rfl⟩
  · split
    · exact .inl ⟨_, by decide, rfl⟩
    · exact .inr ⟨_, ‹_›, rfl⟩

theorem bstInsert_spec {cmp} (h : TotalOrderCmp cmp) {b : Bst} (hi : SetInv cmp b) {v : Val} (hv : v ≠ 0) :
    ((∃ y ∈ b.root.inorder, cmp v y = 0) → bstInsert cmp b v = (b, -EEXIST)) ∧
    ((∀ y ∈ b.root.inorder, cmp v y ≠ 0) → ∃ b' X Y, bstInsert cmp b v = (b', 0) ∧
        b.root.inorder = X ++ Y ∧ b'.root.inorder = X ++ v :: Y ∧ b'.len = b.len + 1 ∧ SetInv cmp b') := by
  constructor
  · rintro ⟨y, hy, he⟩
    have : insert cmp b.nextId v b.root = none :=
      insert_none_iff_find.mpr (by simp [find_complete h hi.ord hy he])
    simp [bstInsert, hv, this]
  · intro hno
    cases hins : insert cmp b.nextId v b.root with
    | none => rw [insert_none_iff_find, find_eq_none hno] at hins; cases hins
    | some t =>
      obtain ⟨A, B, e1, e2⟩ := insert_inorderN hins
      refine ⟨_, A.map Prod.snd, B.map Prod.snd, by simp [bstInsert, hv, hins], ?_, ?_, rfl, (hi.ins h hins).inv⟩
      · rw [← inorderN_map_snd, e1]; simp
      · simp only; rw [← inorderN_map_snd, e2]; simp

theorem SetInv.rm {cmp} (h : TotalOrderCmp cmp) {b : Bst} (hi : SetInv cmp b) {rm : Rm} {s v f}
    (sp : RmSpec b.root.inorderN rm.tree.inorderN s v f) : Moved cmp b (applyRm b rm).1 (dtorEv b v) [] := by
  obtain ⟨X, Y, v1, v2⟩ := sp.vals
  obtain ⟨hsub, hlen⟩ := sp.ids
  simp only [inorderN_map_snd] at v1 v2
  simp only [inorderN_map_fst, inorderN_length] at hsub hlen
  refine ⟨⟨?_, ?_, hi.nodup.sublist hsub, fun k hk => hi.fresh k (hsub.subset hk)⟩, rfl, [v],
    by rw [dtorEv_eq, dtorVals_dtorEvs], ?_⟩
  · show Ordered cmp rm.tree
    have ha := (ordered_iff_ascending h _).mp hi.ord
    rw [v1] at ha
    rw [ordered_iff_ascending h, v2]
    exact List.Pairwise.sublist ((List.sublist_cons_self v Y).append_left X) ha
  · show b.len - 1 = rm.tree.size
    rw [hi.len]; omega
  · show (rm.tree.inorder ++ [v]).Perm _
    rw [v1, v2, List.append_nil, List.append_assoc]
    exact (List.perm_append_comm (l₁ := Y)).append_left X

theorem bstRemove_cases (cmp : Val → Val → Int) (b : Bst) (v : Val) :
    (∃ c, c ≠ 0 ∧ bstRemove cmp b v = (b, [], c)) ∨
    (∃ rm, removeKey cmp v b.root = some rm ∧ bstRemove cmp b v = ((applyRm b rm).1, dtorEv b rm.dval, 0)) := by
  unfold bstRemove
  split
  · exact .inl ⟨_, by decide, rfl⟩
  · split
    · exact .inl ⟨_, by decide, rfl⟩
    · split
      · exact .inl ⟨_, by decide, rfl⟩
      · exact .inr ⟨_, ‹_›, rfl⟩

theorem bstRemove_spec {cmp} (h : TotalOrderCmp cmp) {b : Bst} (hi : SetInv cmp b) {v : Val} (hv : v ≠ 0) (hl : b.len ≠ 0) :
    ((∀ y ∈ b.root.inorder, cmp v y ≠ 0) → bstRemove cmp b v = (b, [], -ENOENT)) ∧
    (∀ y ∈ b.root.inorder, cmp v y = 0 → ∃ b' X Y, bstRemove cmp b v = (b', dtorEvs b.dtor [y], 0) ∧
        b.root.inorder = X ++ y :: Y ∧ b'.root.inorder = X ++ Y ∧ b'.len = b.len - 1 ∧ b'.dtor = b.dtor ∧ SetInv cmp b') := by
  constructor
  · intro hno
    simp [bstRemove, hl, hv, removeKey_eq_none_iff.mpr (find_eq_none hno)]
  · intro y hy he
    cases hr : removeKey cmp v b.root with
    | none => rw [removeKey_eq_none_iff, find_complete h hi.ord hy he] at hr; cases hr
    | some rm =>
      obtain ⟨s, he', sp⟩ := removeKey_spec hr
      obtain ⟨X, Y, v1, v2⟩ := sp.vals
      simp only [inorderN_map_snd] at v1 v2
      have hmem : rm.dval ∈ b.root.inorder := by rw [v1]; simp
      have hy' : rm.dval = y := equal_unique h hi.ord hmem hy he' he
      refine ⟨(applyRm b rm).1, X, Y, ?_, by rw [← hy']; exact v1, v2, rfl, rfl, (hi.rm h sp).inv⟩
      simp [bstRemove, hl, hv, hr, applyRm, dtorEv_eq, hy']

theorem bstFind_spec {cmp} (h : TotalOrderCmp cmp) {b : Bst} (hi : SetInv cmp b) (v y : Val) :
    bstFind cmp b v = some y ↔ v ≠ 0 ∧ y ∈ b.root.inorder ∧ cmp v y = 0 := by
  simp only [bstFind]
  split
  · rename_i h0; simp [h0]
  · rename_i h0
    constructor
    · intro hf; exact ⟨h0, find_some hf⟩
    · rintro ⟨_, hy, he⟩; exact find_complete h hi.ord hy he

/-- `for (; it; m_bst_itr_next(&it)) { x = m_bst_itr_get_data(it); visit(x); if (rmv x) m_bst_itr_remove(it); }`.
Returns the set, the visited values, the output events and whether the C code would have faulted
(or the fuel ran out). -/
def iterLoop (rmv : Val → Bool) : Nat → Bst → Option Itr → List Val → List Ev → Bst × List Val × List Ev × Bool
  | _, b, none, vis, evs => (b, vis, evs, false)
  | 0, b, some _, vis, evs => (b, vis, evs, true)
  | fuel + 1, b, some it, vis, evs =>
    match itrGet b it with
    | some (some x) =>
      if rmv x then
        let r := itrRemove b it
        if r.fault then (r.set, vis ++ [x], evs ++ r.evs, true)
        else match r.itr with
          | none => (r.set, vis ++ [x], evs ++ r.evs, true)
          | some it' =>
            let n := itrNext r.set it'
            if n.fault then (n.set, vis ++ [x], evs ++ r.evs, true)
            else iterLoop rmv fuel n.set n.itr (vis ++ [x]) (evs ++ r.evs)
      else
        let n := itrNext b it
        if n.fault then (n.set, vis ++ [x], evs, true)
        else iterLoop rmv fuel n.set n.itr (vis ++ [x]) evs
    | _ => (b, vis, evs, true)

theorem iterLoop_spec {cmp} (h : TotalOrderCmp cmp) (rmv : Val → Bool) :
    ∀ (fuel : Nat) (b : Bst) (oi : Option Itr) (B A : List (Nat × Val)) (vis : List Val) (evs : List Ev),
    SetInv cmp b → b.root.inorderN = B ++ A → ItPos b.root oi B A → A.length ≤ fuel →
    ∃ b', iterLoop rmv fuel b oi vis evs =
        (b', vis ++ A.map Prod.snd, evs ++ dtorEvs b.dtor ((A.map Prod.snd).filter rmv), false) ∧
      b'.root.inorder = B.map Prod.snd ++ (A.map Prod.snd).filter (fun x => !rmv x) ∧ SetInv cmp b' ∧
      b'.dtor = b.dtor ∧ b'.nextId = b.nextId
  | fuel, b, oi, B, [], vis, evs, hi, hs, hp, _ => by
    obtain rfl := hp.1 rfl
    exact ⟨b, by cases fuel <;> simp [iterLoop], by rw [← inorderN_map_snd, hs]; simp, hi, rfl, rfl⟩
  | 0, _, _, _, _ :: _, _, _, _, _, _, hf => by simp at hf
  | fuel + 1, b, oi, B, a :: A', vis, evs, hi, hs, hp, hf => by
    obtain ⟨it, rfl, hat, hr⟩ := hp.2 (by simp)
    have hg := itrGet_spec hi.nodup hat
    simp only [hr, Bool.false_eq_true, if_false, List.head?_cons, Option.map_some] at hg
    have hf' : A'.length ≤ fuel := by simpa using hf
    cases hrm : rmv a.2 with
    | true =>
      -- removed: the walk resumes at `B | A''`, the old tail with its node identities possibly shifted
      obtain ⟨_, _, rm, A'', e0, e1, e4, hat', sp⟩ := itrRemove_spec hi.nodup hat hr
      cases e0
      have hi' : SetInv cmp (applyRm b rm).1 := (hi.rm h sp).inv
      obtain ⟨oi', n1, pos⟩ := itrNext_spec hi'.nodup hat'
      have hl : A''.length = A'.length := by simpa using congrArg List.length e4
      obtain ⟨b', c1, c2, c3, c4, c5⟩ := iterLoop_spec h rmv fuel _ oi' B A'' (vis ++ [a.2]) (evs ++ dtorEvs b.dtor [a.2])
        hi' hat'.1 pos (hl ▸ hf')
      refine ⟨b', ?_, by rw [c2, e4]; simp [hrm], c3, c4, c5⟩
      simp only [iterLoop, hg, hrm, if_true, e1, n1, Bool.false_eq_true, if_false, dtorEv_eq, c1]
      simp [applyRm, e4, hrm, ← dtorEvs_append]
    | false =>
      obtain ⟨oi', n1, pos⟩ := itrNext_spec hi.nodup hat
      simp only [hr, Bool.false_eq_true, if_false, List.tail_cons, List.take_succ_cons, List.take_zero] at n1 pos
      obtain ⟨b', c1, c2, c3, c4, c5⟩ := iterLoop_spec h rmv fuel b oi' (B ++ [a]) A' (vis ++ [a.2]) evs
        hi (by simpa using hs) pos hf'
      refine ⟨b', ?_, by rw [c2]; simp [hrm], c3, c4, c5⟩
      simp only [iterLoop, hg, hrm, Bool.false_eq_true, if_false, n1, c1]
      simp [hrm]

theorem SetInv.root_nil {cmp} {b : Bst} (hi : SetInv cmp b) (h0 : b.len = 0) : b.root = .nil :=
  (size_eq_zero_iff _).mp (hi.len ▸ h0)

/-- the loop of `m_bst_clear` is the client loop that removes every element, without the `get` -/
theorem clearLoop_of_iterLoop : ∀ (fuel : Nat) (b : Bst) (oi : Option Itr) (vis : List Val) (evs : List Ev) {b' vis' evs'},
    iterLoop (fun _ => true) fuel b oi vis evs = (b', vis', evs', false) → clearLoop fuel b oi evs = (b', evs', false)
  | _, b, none, _, _, _, _, _, h => by simp [iterLoop] at h; simp [clearLoop, h]
  | 0, b, some _, _, _, _, _, _, h => by simp [iterLoop] at h
  | fuel + 1, b, some it, vis, evs, _, _, _, h => by
    simp only [iterLoop, if_true] at h
    simp only [clearLoop]
    -- every way out of the round other than the recursive call reports a fault
    split at h
    · split at h
      · simp at h
      · split at h
        · simp at h
        · split at h
          · simp at h
          · rename_i hf1 _ _ hitr hf2
            simp only [hf1, hitr, hf2]
            exact clearLoop_of_iterLoop fuel _ _ _ _ h
    · simp at h

/-- The last component `false`: no fault, and the fuel `len + 1` that `bstClear` gives `clearLoop`
is not exhausted. -/
theorem bstClear_spec {cmp} (h : TotalOrderCmp cmp) {b : Bst} (hi : SetInv cmp b) :
    (b.len = 0 → bstClear b = (b, [], -EINVAL, false)) ∧
    (b.len ≠ 0 → bstClear b = ({ b with root := .nil, len := 0 }, dtorEvs b.dtor b.root.inorder, 0, false)) := by
  refine ⟨fun h0 => by simp [bstClear, h0], fun h0 => ?_⟩
  obtain ⟨oi, e, pos⟩ := itrNew_pos hi.len hi.nodup
  obtain ⟨b', c1, c2, c3, c4, c5⟩ := iterLoop_spec h (fun _ => true) (b.len + 1) b oi [] b.root.inorderN [] [] hi rfl pos
    (by rw [inorderN_length, hi.len]; omega)
  have hr : b'.root = .nil := (size_eq_zero_iff _).mp (by rw [← inorder_length, c2]; simp)
  have hl : b'.len = 0 := by rw [c3.len, hr]; rfl
  simp only [bstClear, h0, if_false, e, Bool.false_eq_true, clearLoop_of_iterLoop _ _ _ _ _ c1]
  -- `b'` has root nil, len 0 and the flags of `b`: it is `{ b with root := .nil, len := 0 }`
  cases b'
  simp only at hr hl c4 c5
  simp [hl, c4, c5, List.filter_eq_self.mpr]

theorem SetInv.cleared {cmp} {b : Bst} (_ : SetInv cmp b) : SetInv cmp { b with root := .nil, len := 0 } :=
  .nil cmp b.dtor b.nextId

theorem bstClear_moved {cmp} (h : TotalOrderCmp cmp) {b : Bst} (hi : SetInv cmp b) :
    ∃ b' c, bstClear b = (b', dtorEvs b.dtor b.root.inorder, c, false) ∧ b'.root = .nil ∧
      Moved cmp b b' (dtorEvs b.dtor b.root.inorder) [] := by
  by_cases h0 : b.len = 0
  · have hr := hi.root_nil h0
    refine ⟨b, -EINVAL, ?_, hr, ?_⟩ <;> rw [hr, inorder, dtorEvs_nil]
    · exact (bstClear_spec h hi).1 h0
    · exact .refl hi
  · exact ⟨_, _, (bstClear_spec h hi).2 h0, rfl, hi.cleared, rfl, b.root.inorder, dtorVals_dtorEvs _ _, by simp [inorder]⟩

/-- what each of the three traversals does with the sequence it walks (`travPre_eq`, `travIn_eq`,
`travPost_eq`) -/
def visit (cb : Nat → Int) : List Val → List Val → List Val × Int
  | [], acc => (acc, 0)
  | v :: vs, acc => if cb acc.length = 0 then visit cb vs (acc ++ [v]) else (acc ++ [v], cb acc.length)

theorem visit_append (cb : Nat → Int) : ∀ (xs ys acc : List Val),
    visit cb (xs ++ ys) acc = if (visit cb xs acc).2 = 0 then visit cb ys (visit cb xs acc).1 else visit cb xs acc
  | [], ys, acc => by simp [visit]
  | x :: xs, ys, acc => by
    simp only [List.cons_append, visit]
    split
    · exact visit_append cb xs ys _
    · rfl

theorem visit_single (cb : Nat → Int) (v : Val) (acc : List Val) : visit cb [v] acc = (acc ++ [v], cb acc.length) := by
  simp only [visit]
  split
  · rw [‹cb acc.length = 0›]
  · rfl

theorem travPre_eq (cb : Nat → Int) : ∀ (t : Tree) (acc : List Val), travPre cb t acc = visit cb t.preorder acc
  | .nil, acc => rfl
  | .node _ l v r, acc => by
    simp only [travPre, preorder, visit, visit_append, travPre_eq cb l, travPre_eq cb r]

theorem travIn_eq (cb : Nat → Int) : ∀ (t : Tree) (acc : List Val), travIn cb t acc = visit cb t.inorder acc
  | .nil, acc => rfl
  | .node _ l v r, acc => by
    simp only [travIn, inorder, visit, visit_append, travIn_eq cb l, travIn_eq cb r]

theorem travPost_eq (cb : Nat → Int) : ∀ (t : Tree) (acc : List Val), travPost cb t acc = visit cb t.postorder acc
  | .nil, acc => rfl
  | .node _ l v r, acc => by
    simp only [travPost, postorder, visit_append, visit_single, travPost_eq cb l, travPost_eq cb r]

theorem visit_zero : ∀ (vs acc : List Val), visit (fun _ => 0) vs acc = (acc ++ vs, 0)
  | [], acc => by simp [visit]
  | v :: vs, acc => by simp [visit, visit_zero vs]

theorem visit_prefix (cb : Nat → Int) : ∀ (vs acc : List Val),
    ∃ p s, (visit cb vs acc).1 = acc ++ p ∧ vs = p ++ s ∧ ((visit cb vs acc).2 = 0 → s = [])
  | [], acc => ⟨[], [], by simp [visit], rfl, fun _ => rfl⟩
  | v :: vs, acc => by
    simp only [visit]
    split
    · obtain ⟨p, s, e, f, g⟩ := visit_prefix cb vs (acc ++ [v])
      exact ⟨v :: p, s, by simp [e], by simp [f], g⟩
    · exact ⟨[v], vs, rfl, rfl, fun e => absurd e ‹_›⟩

def content (s : St) : List Val :=
  match s.set with
  | some b => b.root.inorder
  | none => []

def insertedBy (op : Op) (evs : List Ev) : List Val :=
  match op with
  | .ins v => if evs = [.ret 0] then [v] else []
  | _ => []

structure StInv (cmp : Val → Val → Int) (s : St) : Prop where
  nofault : s.fault = false
  set : ∀ b, s.set = some b → SetInv cmp b
  itr : ∀ it, s.itr = some it → ∃ b B A, s.set = some b ∧ ItAt b.root it B A

theorem StInv.init (cmp) : StInv cmp {} := ⟨rfl, by simp, by simp⟩

theorem StInv.new (cmp) {s : St} (hf : s.fault = false) (d : Bool) : StInv cmp (step cmp s (.new d)).1 :=
  ⟨hf, fun _ e => by cases e; exact .nil cmp d 0, fun _ e => by cases e⟩

/-- The values `gone` that left the set are `dtors` if it has a destructor; without one `dtors` is
empty.  The flag `d` is quantified because a NULL handle has none to read. -/
def Conserves (s s' : St) (dtors new : List Val) : Prop :=
  ∀ d, (∀ b, s.set = some b → b.dtor = d) → (∀ b, s'.set = some b → b.dtor = d) ∧
    ∃ gone, dtors = (if d then gone else []) ∧ (content s' ++ gone).Perm (content s ++ new)

theorem Conserves.trans {s s' s'' : St} {ds ds' n n' : List Val} (c : Conserves s s' ds n) (c' : Conserves s' s'' ds' n') :
    Conserves s s'' (ds ++ ds') (n ++ n') := fun d hd => by
  obtain ⟨hd', g, e, p⟩ := c d hd
  obtain ⟨hd'', g', e', p'⟩ := c' d hd'
  refine ⟨hd'', g ++ g', by cases d <;> simp [e, e'], ?_⟩
  rw [List.perm_iff_count] at p p' ⊢
  intro a
  have := p a; have := p' a
  simp only [List.count_append] at *
  omega

theorem Moved.step {cmp} {b b' : Bst} {evs : List Ev} {new : List Val} (m : Moved cmp b b' evs new)
    {oi oi' : Option Itr} (hit : ∀ it, oi' = some it → ∃ B A, ItAt b'.root it B A) :
    StInv cmp { set := some b', itr := oi', fault := false } ∧
      Conserves { set := some b, itr := oi, fault := false } { set := some b', itr := oi', fault := false } (dtorVals evs) new := by
  obtain ⟨gone, e, hp⟩ := m.bal
  refine ⟨⟨rfl, fun _ hb => by cases hb; exact m.inv, fun it hi => ?_⟩, fun d hd => ?_⟩
  · obtain ⟨B, A, hat⟩ := hit it hi
    exact ⟨b', B, A, rfl, hat⟩
  · cases hd b rfl
    exact ⟨fun _ hb => by cases hb; exact m.dtor, gone, e, hp⟩

/-- `new` is excepted from the conservation: it abandons the old set with its elements. -/
theorem step_spec {cmp} (h : TotalOrderCmp cmp) {s : St} (hi : StInv cmp s) (op : Op) :
    StInv cmp (step cmp s op).1 ∧
      ((∀ d, op ≠ .new d) → Conserves s (step cmp s op).1 (dtorVals (step cmp s op).2) (insertedBy op (step cmp s op).2)) := by
  obtain ⟨set, itr, fault⟩ := s
  obtain rfl : fault = false := hi.nofault
  cases set with
  | none =>
    -- without a set there is no iterator either, and every call just returns an error
    obtain rfl : itr = none := by
      cases itr with
      | none => rfl
      | some it => obtain ⟨_, _, _, e, _⟩ := hi.itr it rfl; cases e
    refine ⟨?_, fun hop d _ => ?_⟩
    · cases op
      case new d => exact .new cmp rfl d
      all_goals exact StInv.init cmp
    · cases op
      case new d' => exact absurd rfl (hop d')
      all_goals exact ⟨fun _ e => (by cases e), [], by cases d <;> rfl, .refl _⟩
  | some b =>
    have hb := hi.set b rfl
    -- every case ends in `Moved.step`: how the set moved, and where the iterator handed back stands
    have same := Moved.refl hb
    have hitr : ∀ it, itr = some it → ∃ B A, ItAt b.root it B A := fun it e => by
      obtain ⟨_, B, A, e', hat⟩ := hi.itr it e; cases e'; exact ⟨B, A, hat⟩
    cases op with
    | new d => exact ⟨.new cmp rfl d, fun hop => absurd rfl (hop d)⟩
    | ins v =>
      rcases bstInsert_cases cmp b v with ⟨c, hc, e⟩ | ⟨t, ht, e⟩
      · simpa [step, e, insertedBy, hc] using same.step (oi := itr) (oi' := none) (by simp)
      · simpa [step, e, insertedBy] using (hb.ins h ht).step (oi := itr) (oi' := none) (by simp)
    | rm v =>
      rcases bstRemove_cases cmp b v with ⟨c, hc, e⟩ | ⟨rm, hr, e⟩
      · simpa [step, e, insertedBy] using same.step (oi := itr) (oi' := none) (by simp)
      · obtain ⟨_, _, sp⟩ := removeKey_spec hr
        simpa [step, e, insertedBy] using (hb.rm h sp).step (oi := itr) (oi' := none) (by simp)
    | find v => simpa [step, insertedBy] using same.step (oi := itr) hitr
    | len => simpa [step, insertedBy] using same.step (oi := itr) hitr
    | trav o st => simpa [step, insertedBy] using same.step (oi := itr) hitr
    | clear =>
      obtain ⟨b', c, e, _, m⟩ := bstClear_moved h hb
      simpa [step, e, insertedBy] using m.step (oi := itr) (oi' := none) (by simp)
    | free =>
      obtain ⟨b', c, e, hr, m⟩ := bstClear_moved h hb
      obtain ⟨gone, eg, hp⟩ := m.bal
      rw [hr] at hp
      refine ⟨by simpa [step, e] using StInv.init cmp, fun _ d hd => ?_⟩
      cases hd b rfl
      exact ⟨by simp [step, e], gone, by simp [step, e, eg], by simpa [step, e, insertedBy, content, inorder] using hp⟩
    | itNew =>
      obtain ⟨oi, e, pos⟩ := itrNew_pos hb.len hb.nodup
      simpa [step, e, ofItRes, insertedBy] using same.step (oi := itr) pos.itAt
    | itNext =>
      cases itr with
      | none => simpa [step, insertedBy] using same.step (oi := none) (oi' := none) (by simp)
      | some it =>
        obtain ⟨B, A, hat⟩ := hitr it rfl
        obtain ⟨oi, e, pos⟩ := itrNext_spec hb.nodup hat
        simpa [step, e, ofItRes, insertedBy] using same.step (oi := some it) pos.itAt
    | itGet =>
      cases itr with
      | none => simpa [step, insertedBy] using same.step (oi := none) (oi' := none) (by simp)
      | some it =>
        obtain ⟨B, A, hat⟩ := hitr it rfl
        simpa [step, itrGet_spec hb.nodup hat, insertedBy] using
          same.step (oi := some it) hitr
    | itRm =>
      cases itr with
      | none => simpa [step, insertedBy] using same.step (oi := none) (oi' := none) (by simp)
      | some it =>
        obtain ⟨B, A, hat⟩ := hitr it rfl
        cases hr : it.removed with
        | true =>
          simpa [step, itrRemove_removed (b := b) hr, ofItRes, insertedBy] using same.step (oi := some it) hitr
        | false =>
          obtain ⟨a, _, rm, A'', _, e, _, hat', sp⟩ := itrRemove_spec hb.nodup hat hr
          simpa [step, e, ofItRes, insertedBy] using
            (hb.rm h sp).step (oi := some it) (oi' := some { it with removed := true })
              (fun _ e => by cases e; exact ⟨_, _, hat'⟩)

theorem final_inv {cmp} (h : TotalOrderCmp cmp) : ∀ (ops : List Op) {s : St}, StInv cmp s → StInv cmp (final cmp s ops)
  | [], _, hi => hi
  | o :: os, _, hi => final_inv h os (step_spec h hi o).1

def allDtors (tr : List (Op × List Ev)) : List Val := tr.flatMap (fun p => dtorVals p.2)
def allInserted (tr : List (Op × List Ev)) : List Val := tr.flatMap (fun p => insertedBy p.1 p.2)

theorem trace_conserves {cmp} (h : TotalOrderCmp cmp) : ∀ (ops : List Op) (s : St), StInv cmp s → (∀ d, Op.new d ∉ ops) →
    Conserves s (final cmp s ops) (allDtors (trace cmp s ops)) (allInserted (trace cmp s ops))
  | [], s, _, _ => fun d hd => ⟨hd, [], by cases d <;> rfl, .refl _⟩
  | o :: os, s, hi, hnew => by
    obtain ⟨hi1, c⟩ := step_spec h hi o
    exact (c fun d e => hnew d (by simp [e])).trans (trace_conserves h os _ hi1 fun d hm => hnew d (by simp [hm]))

end Lm.Struct.Bst
