import Lm.Inv.ThpoolInv
/-!
Preservation of the per-task bookkeeping invariants.  A task record goes through the stages fresh, submitted, queued,
held, running, finished (or discarded), and every write to it is made by the thread that owns it in its stage (the
submitter, the runner) or, for a queued task, with the queue (`Step.task_cases`).  So what a thread knows of the task
it adds, holds or runs is not disturbed by the others: their writes need the record in a stage it is not in.
-/
namespace Lm.Thpool
variable {s s' : State} {l : Label} {u : Tid}

/-- the clauses of `Inv` that speak of one task record alone -/
def TaskInfo.Ok (r : TaskInfo) : Prop :=
  (r.execCount = if r.started then 1 else 0) ∧ (r.finished = true → r.started = true) ∧
  (r.accepted = true → r.submitted = true) ∧ (r.started = true → r.accepted = true) ∧
  (r.discarded = true → r.accepted = true ∧ r.started = false) ∧ (r.started = true → r.ranWith = some r.arg)

theorem Inv.taskOk (hi : Inv s) (k : TaskId) : (s.task k).Ok :=
  ⟨hi.execCnt k, hi.finStarted k, hi.accSub k, hi.startAcc k, hi.discInv k, hi.ranArg k⟩

theorem TaskInfo.Ok.fresh {r : TaskInfo} (ok : r.Ok) (h : r.accepted = false) : r.started = false ∧ r.discarded = false := by
  obtain ⟨_, _, _, h4, h5, _⟩ := ok
  cases hs : r.started <;> cases hd : r.discarded <;> simp_all

theorem taskFacts_step (hi : Inv s) (h : Step s l s') (k : TaskId) : (s'.task k).Ok := by
  have ok := hi.taskOk k
  cases h.task_cases k with
  | same e _ | deq e _ _ _ =>
    rw [e]
    exact ok
  | call e hp hc _ _ _ =>
    rw [e]
    obtain ⟨ha, hs, hd, _⟩ := hc ▸ hi.heldInv l.tid (by simp [hp])
    simp_all [TaskInfo.Ok]
  | ret e hp hc _ =>
    rw [e]
    obtain ⟨hs, _⟩ := hc ▸ hi.inTaskInv l.tid (by simp [hp])
    simp_all [TaskInfo.Ok]
  | submit he hsub _ =>
    obtain ⟨a, e⟩ := he
    rw [e]
    have := ok.fresh (fresh_not_accepted hi hsub)
    simp_all [TaskInfo.Ok]
  | enq e hp _ =>
    rw [e]
    have := (enq_pre hi hp).1
    simp_all [TaskInfo.Ok]
  | discard e hk _ _ _ =>
    rw [e]
    obtain ⟨ha, hs, _⟩ := hi.queued k hk
    simp_all [TaskInfo.Ok]

theorem tasksNodup_step (hi : Inv s) (h : Step s l s') : s'.tasks.Nodup := by
  have nd := hi.tasksNodup
  -- the queued tasks have been accepted, a task that is being added has not
  have enq : ∀ k, (s.task k).accepted = false → (s.tasks ++ [k]).Nodup := fun k hk =>
    List.nodup_append.mpr ⟨nd, by simp, fun a ha b hb e => by
      rw [e, List.mem_singleton.mp hb] at ha; rw [(hi.queued k ha).1] at hk; cases hk⟩
  rcases h.tasks_cases with e | ⟨_, k, e⟩ | ⟨hp, e⟩ | ⟨hp, e⟩ | ⟨_, e⟩
  · rwa [e]
  · rw [e] at nd; exact (List.nodup_cons.mp nd).2
  · rw [e]; exact enq _ (hi.preEnqInv _ (by simp [hp])).2.1
  · rw [e]; exact enq _ (hi.nPreEnqInv _ (by simp [hp])).2.1
  · rw [e]; exact List.nodup_nil

theorem queued_step (hi : Inv s) (h : Step s l s') :
    ∀ k, k ∈ s'.tasks → (s'.task k).accepted = true ∧ (s'.task k).started = false ∧ (s'.task k).discarded = false := by
  intro k hk
  cases h.task_cases k with
  | same e hm =>
    rw [e]; exact hi.queued k (hm.mp hk)
  | deq e hq _ _ =>
    rw [e]; exact hi.queued k (by simp [hq])
  | call _ hp hc hq _ _ =>
    -- the task that is called has been dequeued
    rw [hq, hc] at hk; exact ((hi.heldInv l.tid (by simp [hp])).2.2.2.1 hk).elim
  | ret _ hp hc hq =>
    -- the task that returns has been started
    rw [hq, hc] at hk
    exact absurd (hi.inTaskInv l.tid (by simp [hp])).1 (by simp [(hi.queued _ hk).2.1])
  | submit he _ hq =>
    obtain ⟨a, e⟩ := he
    rw [hq] at hk; rw [e]; exact hi.queued k hk
  | enq e hp _ =>
    rw [e]; exact ⟨rfl, (hi.taskOk k).fresh (enq_pre hi hp).2.1⟩
  | discard _ _ hq _ _ =>
    rw [hq] at hk; cases hk

theorem heldInv_step (hi : Inv s) (h : Step s l s') : ∀ u, held (s'.pc u) = true →
    (s'.task (s'.cur u)).accepted = true ∧ (s'.task (s'.cur u)).started = false ∧ (s'.task (s'.cur u)).discarded = false ∧
    s'.cur u ∉ s'.tasks ∧ (s'.task (s'.cur u)).runner = u := by
  intro u hu
  by_cases ht : u = l.tid
  · subst ht
    have ih := hi.heldInv l.tid
    cases h <;> simp only [State.goto, upd_same, *] at hu <;> try contradiction
    case wDequeue k rest _ hq =>
      -- the head of the queue: a queued task, and not a second time in the queue
      have q := hi.queued k (by simp [hq])
      have nd := hi.tasksNodup
      rw [hq] at nd
      simp only [upd_same, and_true]
      exact ⟨q.1, q.2.1, q.2.2, (List.nodup_cons.mp nd).1⟩
    all_goals exact ih (by simp [*])
  · rw [h.cls_other ht held rfl] at hu
    rw [h.cur_other ht]
    obtain ⟨ha, hs, hd, hnq, hr⟩ := hi.heldInv u hu
    -- no other thread writes the record of the task that `u` holds
    cases h.task_cases (s.cur u) with
    | same e hm =>
      rw [e]; exact ⟨ha, hs, hd, fun hk => hnq (hm.mp hk), hr⟩
    | deq _ hq _ _ =>
      exact (hnq (by simp [hq])).elim
    | call _ hp hc _ _ _ =>
      -- a task has one runner
      exact (ht (hr.symm.trans (hc ▸ (hi.heldInv l.tid (by simp [hp])).2.2.2.2))).elim
    | ret _ hp hc _ =>
      rw [hc, (hi.inTaskInv l.tid (by simp [hp])).1] at hs; cases hs
    | submit _ hsub _ =>
      rw [hi.accSub _ ha] at hsub; cases hsub
    | enq _ hp _ =>
      rw [(enq_pre hi hp).2.1] at ha; cases ha
    | discard _ hk _ _ _ =>
      exact (hnq hk).elim

theorem inTaskInv_step (hi : Inv s) (h : Step s l s') : ∀ u, inTask (s'.pc u) = true →
    (s'.task (s'.cur u)).started = true ∧ (s'.task (s'.cur u)).finished = false ∧ (s'.task (s'.cur u)).runner = u := by
  intro u hu
  by_cases ht : u = l.tid
  · subst ht
    have ih := hi.inTaskInv l.tid
    -- the running task has been accepted, so it is not the one a nested `m_thpool_add` is adding
    have other : ∀ k, inTask (s.pc l.tid) = true → (s.task k).accepted = false → s.cur l.tid ≠ k := fun k hp hk e => by
      rw [← e, hi.startAcc _ (ih hp).1] at hk; cases hk
    cases h <;> simp only [State.goto, upd_same, *] at hu <;> try contradiction
    case wCall t hp =>
      obtain ⟨_, hs, _, _, hr⟩ := hi.heldInv t (by simp [hp])
      simp only [State.goto, upd_same, true_and]
      exact ⟨Bool.eq_false_iff.mpr fun hf => by simp [hi.finStarted _ hf] at hs, hr⟩
    case wAddCall k _ hp hsub =>
      have hk := other k (by simp [hp]) (fresh_not_accepted hi hsub)
      simp only [State.goto, upd_other _ _ _ _ hk]
      exact ih (by simp [hp])
    case nEnq t hp =>
      have hk := other _ (by simp [hp]) (hi.nPreEnqInv t (by simp [hp])).2.1
      simp only [State.goto, upd_other _ _ _ _ hk]
      exact ih (by simp [hp])
    all_goals exact ih (by simp [*])
  · rw [h.cls_other ht inTask rfl] at hu
    rw [h.cur_other ht]
    obtain ⟨hs, hf, hr⟩ := hi.inTaskInv u hu
    have ha := hi.startAcc _ hs
    -- no other thread writes the record of the task that `u` runs
    cases h.task_cases (s.cur u) with
    | same e _ =>
      rw [e]; exact ⟨hs, hf, hr⟩
    | deq _ hq _ _ =>
      rw [(hi.queued _ (by simp [hq])).2.1] at hs; cases hs
    | call _ hp hc _ _ _ =>
      rw [hc, (hi.heldInv l.tid (by simp [hp])).2.1] at hs; cases hs
    | ret _ hp hc _ =>
      exact (ht (hr.symm.trans (hc ▸ (hi.inTaskInv l.tid (by simp [hp])).2.2))).elim
    | submit _ hsub _ =>
      rw [hi.accSub _ ha] at hsub; cases hsub
    | enq _ hp _ =>
      rw [(enq_pre hi hp).2.1] at ha; cases ha
    | discard _ hk _ _ _ =>
      rw [(hi.queued _ hk).2.1] at hs; cases hs

theorem runningInv_step (hi : Inv s) (h : Step s l s') : ∀ k, (s'.task k).started = true → (s'.task k).finished = false →
    inTask (s'.pc (s'.task k).runner) = true ∧ s'.cur (s'.task k).runner = k := by
  intro k hs hf
  cases h.task_cases k with
  | same e _ =>
    rw [e] at hs hf ⊢
    -- it was running before, and its runner has not returned from it
    obtain ⟨hr, hk⟩ := hi.runningInv k hs hf
    rcases h.inTask_next hr with ⟨hr', hk'⟩ | ⟨_, hfin⟩
    · exact ⟨hr', hk'.trans hk⟩
    · rw [hk, e, hf] at hfin; cases hfin
  | deq e hq _ _ =>
    rw [e] at hs hf ⊢
    cases (hi.queued k (by simp [hq])).2.1.symm.trans hs
  | call e hp hc _ hp' hc' =>
    rw [e] at hs hf ⊢
    -- the call, by the worker that holds the task
    have hr : (s.task k).runner = l.tid := hc ▸ (hi.heldInv l.tid (by simp [hp])).2.2.2.2
    show inTask (s'.pc (s.task k).runner) = true ∧ s'.cur (s.task k).runner = k
    rw [hr, hp']; exact ⟨rfl, hc'⟩
  | ret e _ _ _ =>
    rw [e] at hs hf ⊢
    cases hf
  | submit he hsub _ =>
    obtain ⟨a, e⟩ := he
    rw [e] at hs hf ⊢
    rw [hi.accSub k (hi.startAcc k hs)] at hsub; cases hsub
  | enq e hp _ =>
    rw [e] at hs hf ⊢
    cases (enq_pre hi hp).2.1.symm.trans (hi.startAcc k hs)
  | discard e hk _ _ _ =>
    rw [e] at hs hf ⊢
    cases (hi.queued k hk).2.1.symm.trans hs

theorem pendingInv_step (hi : Inv s) (h : Step s l s') : ∀ k, (s'.task k).accepted = true → (s'.task k).started = false →
    (s'.task k).discarded = false →
    k ∈ s'.tasks ∨ (held (s'.pc (s'.task k).runner) = true ∧ s'.cur (s'.task k).runner = k) := by
  intro k ha hs hd
  cases h.task_cases k with
  | same e hm =>
    rw [e] at ha hs hd ⊢
    -- it was pending before: still queued, or held by a worker that has not called it
    rcases hi.pendingInv k ha hs hd with hq | ⟨hr, hk⟩
    · exact .inl (hm.mpr hq)
    · rcases h.held_next hr with ⟨hr', hk'⟩ | ⟨_, hst⟩
      · exact .inr ⟨hr', hk'.trans hk⟩
      · rw [hk, e, hs] at hst; cases hst
  | deq e _ hp' hc' =>
    rw [e] at ha hs hd ⊢
    -- the dequeue: the moving worker holds it now
    refine .inr ?_
    show held (s'.pc l.tid) = true ∧ s'.cur l.tid = k
    rw [hp']; exact ⟨rfl, hc'⟩
  | call e _ _ _ _ _ =>
    rw [e] at ha hs hd ⊢
    cases hs
  | ret e hp hc _ =>
    rw [e] at ha hs hd ⊢
    cases (hc ▸ (hi.inTaskInv l.tid (by simp [hp])).1).symm.trans hs
  | submit he hsub _ =>
    obtain ⟨a, e⟩ := he
    rw [e] at ha hs hd ⊢
    rw [hi.accSub k ha] at hsub; cases hsub
  | enq _ _ hq =>
    exact .inl (by simp [hq])
  | discard e _ _ _ _ =>
    rw [e] at ha hs hd ⊢
    cases hd

/-- The record of a task that `u` has submitted and that is not yet accepted stays as it is under the steps of other
threads: a record names its one submitter (`subBy`), so their calls and enqueues are about other tasks. -/
theorem sub_frame (hi : Inv s) (h : Step s l s') (ht : u ≠ l.tid) {k : TaskId}
    (ih : (s.task k).submitted = true ∧ (s.task k).accepted = false ∧ (s.task k).subBy = u) :
    (s'.task k).submitted = true ∧ (s'.task k).accepted = false ∧ (s'.task k).subBy = u := by
  cases h.task_cases k with
  | same e _ | deq e _ _ _ | call e _ _ _ _ _ | ret e _ _ _ | discard e _ _ _ _ => rw [e]; exact ih
  | submit _ e _ => rw [ih.1] at e; cases e
  | enq _ hp _ => exact absurd (ih.2.2.symm.trans (enq_pre hi hp).2.2) ht

theorem preEnqInv_step (hi : Inv s) (h : Step s l s') : ∀ u, preEnq (s'.pc u) = true →
    (s'.task (s'.cur u)).submitted = true ∧ (s'.task (s'.cur u)).accepted = false ∧ (s'.task (s'.cur u)).subBy = u := by
  intro u hu
  by_cases ht : u = l.tid
  · subst ht
    have ih := hi.preEnqInv l.tid
    cases h <;> simp only [State.goto, upd_same, *] at hu <;> try contradiction
    case sAddCall_new k _ _ _ hsub | sAddCall k _ _ _ hsub =>
      -- a fresh task has not been accepted
      simp only [upd_same, true_and, and_true]
      exact fresh_not_accepted hi hsub
    all_goals exact ih (by simp [*])
  · rw [h.cls_other ht preEnq rfl] at hu
    rw [h.cur_other ht]
    exact sub_frame hi h ht (hi.preEnqInv u hu)

/-- with `wait_all` the queue is empty when `m_queue_free` runs, so nothing is discarded: while a task is queued
`pool->threads` is not empty (`tasksThreads`), and every worker has left its loop, which it does only on an empty queue
(`exitAllEmpty`) -/
theorem waitall_queue_empty (hi : Inv s) (h0 : s.pc 0 = .fQueueFree) (hm : s.mode = true) : s.tasks = [] := by
  cases ht : s.tasks with
  | nil => rfl
  | cons k ks =>
    exfalso
    have hth := hi.tasksThreads (by simp [ht])
    cases hh : s.threads with
    | nil => exact hth hh
    | cons u us =>
      have hw := (hi.workersIff u).mp (hi.thrSub u (by simp [hh]))
      have hg := hi.goneAll (Or.inl (by simp [h0])) u hw
      have he : exiting (s.pc u) = true := by revert hg; cases s.pc u <;> simp
      have hs := hi.shutSet (by simp [h0])
      rw [hm] at hs
      have := hi.exitAllEmpty u he (by simpa using hs)
      simp [ht] at this

theorem discPhase_step (hi : Inv s) (h : Step s l s') :
    ∀ k, (s'.task k).discarded = true → 13 ≤ ph (s'.pc 0) ∧ s'.mode = false := by
  intro k hd
  -- thread 0 stays past `m_queue_free`, and it chose `mode` on its way to `fLock`
  have keep : (s.task k).discarded = true → 13 ≤ ph (s'.pc 0) ∧ s'.mode = false := fun hd => by
    obtain ⟨hph, hm⟩ := hi.discPhase k hd
    have hph' := Nat.le_trans hph h.ph_mono
    refine ⟨hph', ?_⟩
    rcases h.mode_cases with e | e
    · rwa [e]
    · rw [zero_of_isM hi (u := l.tid) (by rw [← h.isM_pc, e]; rfl)] at e
      rw [e] at hph'; simp at hph'
  rcases h.task_cases k with ⟨e, _⟩ | ⟨e, _⟩ | ⟨e, _⟩ | ⟨e, _⟩ | ⟨⟨a, e⟩, _⟩ | ⟨e, _⟩ | ⟨_, hk, _, hp, hp'⟩
  iterate 6 exact keep (by rw [e] at hd; exact hd)
  -- `m_queue_free` itself: the queue is not empty, so this is not wait_all
  have h0 := zero_of_isM hi (u := l.tid) (by simp [hp])
  rw [h0] at hp hp'
  rw [hp', h.mode_cases.resolve_right (by rw [h0, hp']; nofun)]
  refine ⟨by simp, Bool.eq_false_iff.mpr fun hm => ?_⟩
  rw [waitall_queue_empty hi hp hm] at hk; cases hk

theorem nPreEnqInv_step (hi : Inv s) (h : Step s l s') : ∀ u, nPreEnq (s'.pc u) = true →
    (s'.task (s'.addK u)).submitted = true ∧ (s'.task (s'.addK u)).accepted = false ∧ (s'.task (s'.addK u)).subBy = u := by
  intro u hu
  by_cases ht : u = l.tid
  · subst ht
    have ih := hi.nPreEnqInv l.tid
    cases h <;> simp only [State.goto, upd_same, *] at hu <;> try contradiction
    case wAddCall k _ _ hs =>
      -- the call: the task was not submitted before, hence not accepted either
      simpa [State.goto] using fresh_not_accepted hi hs
    all_goals exact ih (by simp [*])
  · rw [h.cls_other ht nPreEnq rfl] at hu
    rw [h.addK_other ht]
    exact sub_frame hi h ht (hi.nPreEnqInv u hu)

/-- a worker gets a task only by the dequeue: with an empty queue, a thread that has none has none after its step -/
theorem no_task_step (h : Step s l s') (hq : s.tasks = [])
    (ih : held (s.pc l.tid) = false ∧ inTask (s.pc l.tid) = false) :
    held (s'.pc l.tid) = false ∧ inTask (s'.pc l.tid) = false := by
  suffices hn : (held (s'.pc l.tid) || inTask (s'.pc l.tid)) = false from Bool.or_eq_false_iff.1 hn
  apply Bool.eq_false_iff.2
  intro hu
  cases h <;> simp only [State.goto, upd_same, *] at hu <;> try contradiction
  case wDequeue hc => rw [hq] at hc; cases hc
  all_goals exact absurd ih (by simp [*])

/-- Nothing is queued, held or running before `m_thpool_new` has returned: there is no submitter yet (`liveHandle`)
and no running task that could submit, so nothing is enqueued. -/
theorem newQuiet_step (hi : Inv s) (h : Step s l s') :
    ph (s'.pc 0) ≤ 1 → s'.tasks = [] ∧ ∀ u, held (s'.pc u) = false ∧ inTask (s'.pc u) = false := by
  intro hp
  have hp0 : ph (s.pc 0) ≤ 1 := Nat.le_trans h.ph_mono hp
  have ⟨hq, hb⟩ := hi.newQuiet hp0
  refine ⟨?_, fun u => ?_⟩
  · rcases h.tasks_cases with e | ⟨_, k, e⟩ | ⟨e, _⟩ | ⟨e, _⟩ | ⟨_, e⟩
    · rwa [e]
    · rw [hq] at e; cases e
    · rw [hi.liveHandle l.tid (by simp [e])] at hp0; simp at hp0
    · have := (hb l.tid).2; simp [e] at this
    · exact e
  · by_cases ht : u = l.tid
    · exact ht ▸ no_task_step h hq (hb l.tid)
    · rcases h.pc_frame ht with e | ⟨_, e, _⟩
      · rw [e]; exact hb u
      · simp [e]

end Lm.Thpool
