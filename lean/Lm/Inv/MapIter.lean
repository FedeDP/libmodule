import Lm.Inv.MapOps
/-!
# Iteration over the map (property C05): circular scan, removal of the current entry, clear

`m_map_iterate` with a callback that keeps or removes the current entry, the `m_itr_foreach` loop and
`m_map_clear` are the same walk over the scan window: skip the empty positions, and at an entry either
go on (`WalkPost.keep`) or remove it and look at the same position again (`WalkPost.rm`).  The three
loop proofs only follow the control flow.
-/
namespace Lm.Struct.Map
variable {κ : Type}

theorem clearElem_congr (P : Params κ) {m : Map κ} {i i' : Nat} (h : i % m.size = i' % m.size) :
    clearElem P m i = clearElem P m i' := by
  have hs : slot m.cells i = slot m.cells i' := slot_congr h
  cases hi : slot m.cells i' with
  | none => rw [clearElem_none P (hs.trans hi), clearElem_none P hi]
  | some e => rw [clearElem_eq P (hs.trans hi), clearElem_eq P hi, cleared_congr P h]

section
variable {c : List (Cell κ)} {p stop : Nat}

theorem inWin_step_none (stop : Nat) (h : slot c p = none) (e : κ × Nat) :
    InWin c p stop e ↔ InWin c (p + 1) stop e := by
  constructor
  · rintro ⟨q, h1, h2, h3⟩
    refine ⟨q, ?_, h2, h3⟩
    rcases Nat.eq_or_lt_of_le h1 with heq | hlt
    · subst heq; rw [h] at h3; cases h3
    · exact hlt
  · rintro ⟨q, h1, h2, h3⟩; exact ⟨q, by omega, h2, h3⟩

theorem inWin_step_some (hp : p < stop) {e0 : κ × Nat} (h : slot c p = some e0) (e : κ × Nat) :
    InWin c p stop e ↔ e = e0 ∨ InWin c (p + 1) stop e := by
  constructor
  · rintro ⟨q, h1, h2, h3⟩
    rcases Nat.eq_or_lt_of_le h1 with heq | hlt
    · subst heq; rw [h] at h3; cases h3; left; rfl
    · right; exact ⟨q, hlt, h2, h3⟩
  · rintro (rfl | ⟨q, h1, h2, h3⟩)
    · exact ⟨p, Nat.le_refl _, hp, h⟩
    · exact ⟨q, by omega, h2, h3⟩

theorem inWin_empty (c : List (Cell κ)) (h : stop ≤ p) (e : κ × Nat) : ¬ InWin c p stop e := by
  rintro ⟨q, h1, h2, _⟩; omega

theorem inWin_full {s : Nat} (hs : slot c s = none) (e : κ × Nat) : InWin c (s + 1) (s + c.length) e ↔ Has c e := by
  rw [← window_full c s e]
  constructor
  · rintro ⟨q, h1, h2, h3⟩; exact ⟨q, by omega, h2, h3⟩
  · rintro ⟨q, h1, h2, h3⟩
    refine ⟨q, Nat.lt_of_le_of_ne h1 ?_, h2, h3⟩
    rintro rfl; rw [hs] at h3; cases h3

end

/-- the state of a scan: position `p` inside the window that ends at the empty slot `stop` -/
structure ScanOk (P : Params κ) (m : Map κ) (p stop : Nat) : Prop where
  wf : WF P m
  lo : stop < p + m.size
  stopNone : slot m.cells stop = none

def remEvs (m : Map κ) (e : κ × Nat) : List (Ev κ) :=
  (if m.autofree then [Ev.kfree e.1] else []) ++ (if m.dtor then [Ev.dtor e.2] else [])

section
variable {P : Params κ} {m : Map κ} {p stop : Nat}

theorem ScanOk.next (h : ScanOk P m p stop) : ScanOk P m (p + 1) stop :=
  ⟨h.wf, by have := h.lo; omega, h.stopNone⟩

theorem rm_step (hP : P.Good) (h : ScanOk P m p stop) (hp : p < stop) {k : κ} {v : Nat}
    (hs : slot m.cells p = some (k, v)) :
    ScanOk P (clearElem P m p).1 p stop ∧ SameFlags m (clearElem P m p).1 ∧
    (clearElem P m p).1.size = m.size ∧ (clearElem P m p).1.length + 1 = m.length ∧
    (clearElem P m p).2 = remEvs m (k, v) ∧
    (∀ e, Has (clearElem P m p).1.cells e ↔ (Has m.cells e ∧ e.1 ≠ k)) ∧
    (∀ e, InWin (clearElem P m p).1.cells p stop e ↔ InWin m.cells (p + 1) stop e) := by
  obtain ⟨g1, g2, g3, g4, g5, g6⟩ := clearElem_spec hP h.wf hs
  have hlo : stop < p + m.cells.length := h.lo
  have hw := cleared_window P hp hlo (Nat.le_refl stop) (Nat.le_of_lt hlo) h.stopNone
  have hc : (clearElem P m p).1.cells = cleared P m.cells p := by rw [clearElem_eq P hs]
  rw [← hc] at hw
  exact ⟨⟨g1, by rw [g4]; exact h.lo, hw.1⟩, g2, g4, g3, g6, g5, hw.2⟩

theorem scanOk_start (hwf : WF P m) :
    ScanOk P m (firstEmpty m.cells + 1) (firstEmpty m.cells + m.size) ∧
    ∀ e, InWin m.cells (firstEmpty m.cells + 1) (firstEmpty m.cells + m.size) e ↔ Has m.cells e := by
  obtain ⟨h1, h2⟩ := firstEmpty_spec hwf.occ_lt
  have hstop : slot m.cells (firstEmpty m.cells + m.size) = none := by
    rw [slot_congr (j := firstEmpty m.cells) (by simp [Map.size])]; exact h2
  exact ⟨⟨hwf, by omega, hstop⟩, inWin_full h2⟩

end

structure ItrOk (P : Params κ) (m : Map κ) (it : Itr) : Prop where
  scan : ScanOk P m it.pos it.stop
  lt : it.pos < it.stop
  occupied : it.removed = false → ∃ e, slot m.cells it.pos = some e

theorem ItrOk.of_sameKeys {P : Params κ} {m m' : Map κ} {it : Itr} (h : ItrOk P m it) (hwf' : WF P m')
    (hk : SameKeys m.cells m'.cells) : ItrOk P m' it := by
  refine ⟨⟨hwf', by rw [Map.size, hk.1]; exact h.scan.lo, hk.slot_none h.scan.stopNone⟩, h.lt, fun hr => ?_⟩
  obtain ⟨⟨k, v⟩, he⟩ := h.occupied hr
  obtain ⟨w, hw⟩ := hk.slot_some he
  exact ⟨_, hw⟩

theorem scan_window (c : List (Cell κ)) (stop : Nat) : ∀ (fuel p : Nat), p + fuel = stop →
    (scan c fuel p = none ∧ ∀ e, ¬ InWin c p stop e) ∨
    (∃ q, scan c fuel p = some q ∧ p ≤ q ∧ q < stop ∧ (∃ e, slot c q = some e) ∧
      ∀ e, InWin c q stop e ↔ InWin c p stop e) := by
  intro fuel
  induction fuel with
  | zero => intro p hp; exact Or.inl ⟨rfl, inWin_empty c (by omega)⟩
  | succ fuel ih =>
    intro p hp
    rw [scan]
    cases hs : slot c p with
    | some e => exact Or.inr ⟨p, rfl, Nat.le_refl _, by omega, ⟨e, hs⟩, fun _ => Iff.rfl⟩
    | none =>
      have hstep := inWin_step_none stop hs
      rcases ih (p + 1) (by omega) with ⟨h1, h2⟩ | ⟨q, h1, h2, h3, h4, h5⟩
      · exact Or.inl ⟨h1, fun e h => h2 e ((hstep e).mp h)⟩
      · exact Or.inr ⟨q, h1, by omega, h3, h4, fun e => (h5 e).trans (hstep e).symm⟩

section
variable {P : Params κ} {m : Map κ}

theorem itrNew_spec (hwf : WF P m) :
    (m.length = 0 ∧ itrNew m = none) ∨
    (m.length ≠ 0 ∧ ∃ it, itrNew m = some it ∧ ItrOk P m it ∧ it.removed = false ∧
      ∀ e, InWin m.cells it.pos it.stop e ↔ Has m.cells e) := by
  unfold itrNew
  by_cases h0 : m.length = 0
  · left; rw [if_pos h0]; exact ⟨h0, rfl⟩
  · right
    rw [if_neg h0]
    refine ⟨h0, ?_⟩
    obtain ⟨hok, hwin⟩ := scanOk_start hwf
    simp only
    rcases scan_window m.cells (firstEmpty m.cells + m.size) (m.size - 1) (firstEmpty m.cells + 1)
      (by have := hwf.room; omega) with ⟨_, h2⟩ | ⟨q, h1, h2, h3, h4, h5⟩
    · -- a scan that finds nothing: no entries, so `length` is 0
      exact absurd (hwf.len.trans ((occ_eq_zero_iff _).mpr fun e he => h2 e ((hwin e).mpr he))) h0
    · rw [h1]
      refine ⟨_, rfl, ⟨⟨hwf, by simp only; omega, hok.stopNone⟩, h3, fun _ => h4⟩, rfl, fun e => ?_⟩
      rw [h5 e, hwin e]

theorem itrNext_spec {it : Itr} (hok : ItrOk P m it) :
    (itrNext m it = none ∧ ∀ e, ¬ InWin m.cells (if it.removed then it.pos else it.pos + 1) it.stop e) ∨
    (∃ it', itrNext m it = some it' ∧ ItrOk P m it' ∧ it'.removed = false ∧ it'.stop = it.stop ∧
      (if it.removed then it.pos else it.pos + 1) ≤ it'.pos ∧
      ∀ e, InWin m.cells it'.pos it.stop e ↔ InWin m.cells (if it.removed then it.pos else it.pos + 1) it.stop e) := by
  unfold itrNext
  simp only
  have hle : (if it.removed then it.pos else it.pos + 1) ≤ it.stop := by
    have := hok.lt; split <;> omega
  rcases scan_window m.cells it.stop _ _ (Nat.add_sub_cancel' hle) with ⟨h1, h2⟩ | ⟨q, h1, h2, h3, h4, h5⟩
  · left; rw [h1]; exact ⟨rfl, h2⟩
  · right
    rw [h1]
    refine ⟨_, rfl, ⟨⟨hok.scan.wf, ?_, hok.scan.stopNone⟩, h3, fun _ => h4⟩, rfl, rfl, h2, h5⟩
    simp only
    have := hok.scan.lo
    split at h2 <;> omega

end

def visitsOf : List (Out κ) → List (κ × Nat)
  | [] => []
  | .visit k v :: r => (k, v) :: visitsOf r
  | .ev _ :: r => visitsOf r
  | .rc _ :: r => visitsOf r

/-- the visited entries the callback removed (`vn` = index of the first visit) -/
def rmList (cb : Nat → κ → Nat → CbAct κ) : Nat → List (κ × Nat) → List (κ × Nat)
  | _, [] => []
  | vn, e :: rest => (match cb vn e.1 e.2 with | .rm => [e] | _ => []) ++ rmList cb (vn + 1) rest

def ContRm (cb : Nat → κ → Nat → CbAct κ) : Prop := ∀ i k v, cb i k v = .cont ∨ cb i k v = .rm

theorem visitsOf_append (a b : List (Out κ)) : visitsOf (a ++ b) = visitsOf a ++ visitsOf b := by
  induction a with
  | nil => rfl
  | cons x xs ih => cases x <;> simp [visitsOf, ih]

theorem visitsOf_evs (evs : List (Ev κ)) : visitsOf (evs.map Out.ev) = [] := by
  induction evs with
  | nil => rfl
  | cons x xs ih => simp [visitsOf, ih]

theorem outEvs_append (a b : List (Out κ)) : outEvs (a ++ b) = outEvs a ++ outEvs b := by
  induction a with
  | nil => rfl
  | cons x xs ih => cases x <;> simp [outEvs, ih]

theorem outEvs_evs (evs : List (Ev κ)) : outEvs (evs.map Out.ev) = evs := by
  induction evs with
  | nil => rfl
  | cons x xs ih => simp [outEvs, ih]

theorem flatMap_remEvs_congr {m m' : Map κ} (h : SameFlags m m') (l : List (κ × Nat)) :
    l.flatMap (remEvs m') = l.flatMap (remEvs m) := by
  congr 1; funext e; unfold remEvs; rw [h.autofree, h.dtor]

/-- what the scan loop of `m_map_iterate` achieves from position `p` on -/
structure IterPost (P : Params κ) (cb : Nat → κ → Nat → CbAct κ) (m : Map κ) (p stop vn : Nat)
    (r : Map κ × List (Out κ) × Int) : Prop where
  rc : r.2.2 = 0
  wf : WF P r.1
  flags : SameFlags m r.1
  size : r.1.size = m.size
  nodup : ((visitsOf r.2.1).map (·.1)).Nodup
  visits : ∀ e, e ∈ visitsOf r.2.1 ↔ InWin m.cells p stop e
  after : ∀ e, Has r.1.cells e ↔ (Has m.cells e ∧ e.1 ∉ (rmList cb vn (visitsOf r.2.1)).map (·.1))
  evs : outEvs r.2.1 = (rmList cb vn (visitsOf r.2.1)).flatMap (remEvs m)

/-- `for (itr = m_map_itr_new(m); itr; m_map_itr_next(&itr)) { read key and value; maybe m_map_itr_remove(itr); }`
with `dec i k v` = "remove the `i`-th visited entry"; returns the map, the visited entries, the events -/
def itrWalk (P : Params κ) (dec : Nat → κ → Nat → Bool) :
    Nat → Map κ → Option Itr → Nat → Map κ × List (κ × Nat) × List (Ev κ)
  | 0, m, _, _ => (m, [], [])
  | _ + 1, m, none, _ => (m, [], [])
  | fuel + 1, m, some it, vn =>
    match itrKey m it, itrGet m it with
    | some k, some v =>
      if dec vn k v then
        let r := itrRemove P m it
        let r' := itrWalk P dec fuel r.1 (itrNext r.1 r.2.2.1) (vn + 1)
        (r'.1, (k, v) :: r'.2.1, r.2.1 ++ r'.2.2)
      else
        let r' := itrWalk P dec fuel m (itrNext m it) (vn + 1)
        (r'.1, (k, v) :: r'.2.1, r'.2.2)
    | _, _ => (m, [], [])

def rmListB (dec : Nat → κ → Nat → Bool) : Nat → List (κ × Nat) → List (κ × Nat)
  | _, [] => []
  | vn, e :: rest => (if dec vn e.1 e.2 then [e] else []) ++ rmListB dec (vn + 1) rest

theorem itrWalk_none (P : Params κ) (dec : Nat → κ → Nat → Bool) (fuel : Nat) (m : Map κ) (vn : Nat) :
    itrWalk P dec fuel m none vn = (m, [], []) := by
  cases fuel <;> rfl

/-- what a walk over the window `[p, stop)` of `m` achieves, `r` = (map afterwards, entries visited, events): each entry of
the window is visited once; those `dec` chose (`vn` = index of the first visit) are gone, with their removal events in
that order; all others are still there -/
structure WalkPost (P : Params κ) (dec : Nat → κ → Nat → Bool) (m : Map κ) (p stop vn : Nat)
    (r : Map κ × List (κ × Nat) × List (Ev κ)) : Prop where
  wf : WF P r.1
  flags : SameFlags m r.1
  size : r.1.size = m.size
  nodup : (r.2.1.map (·.1)).Nodup
  visits : ∀ e, e ∈ r.2.1 ↔ InWin m.cells p stop e
  after : ∀ e, Has r.1.cells e ↔ (Has m.cells e ∧ e.1 ∉ (rmListB dec vn r.2.1).map (·.1))
  evs : r.2.2 = (rmListB dec vn r.2.1).flatMap (remEvs m)

section
variable {P : Params κ} {dec : Nat → κ → Nat → Bool} {m : Map κ} {p stop vn : Nat} {k : κ} {v : Nat}
  {r : Map κ × List (κ × Nat) × List (Ev κ)}

theorem walkPost_nil (hwf : WF P m) (h : ∀ e, ¬ InWin m.cells p stop e) : WalkPost P dec m p stop vn (m, [], []) :=
  ⟨hwf, SameFlags.refl m, rfl, by simp, fun e => by simp; exact h e, fun e => by simp [rmListB], by simp [rmListB]⟩

theorem ScanOk.key_ne (hok : ScanOk P m p stop) (hs : slot m.cells p = some (k, v)) {e : κ × Nat}
    (h : InWin m.cells (p + 1) stop e) : e.1 ≠ k := by
  obtain ⟨q, h1, h2, h3⟩ := h
  have : stop < p + m.cells.length := hok.lo
  exact hok.wf.tbl.key_ne (show p < q by omega) (by omega) hs h3

theorem WalkPost.of_win {q : Nat} (h : ∀ e, InWin m.cells q stop e ↔ InWin m.cells p stop e)
    (w : WalkPost P dec m q stop vn r) : WalkPost P dec m p stop vn r :=
  { w with visits := fun e => (w.visits e).trans (h e) }

theorem WalkPost.keep (hok : ScanOk P m p stop) (hp : p < stop) (hs : slot m.cells p = some (k, v))
    (hd : dec vn k v = false) (w : WalkPost P dec m (p + 1) stop (vn + 1) r) :
    WalkPost P dec m p stop vn (r.1, (k, v) :: r.2.1, r.2.2) := by
  have hrm : rmListB dec vn ((k, v) :: r.2.1) = rmListB dec (vn + 1) r.2.1 := by simp [rmListB, hd]
  refine ⟨w.wf, w.flags, w.size, List.nodup_cons.mpr ⟨?_, w.nodup⟩, fun e => ?_, ?_, ?_⟩
  · intro hmem
    obtain ⟨e, he, hek⟩ := List.mem_map.mp hmem
    exact hok.key_ne hs ((w.visits e).mp he) hek
  · rw [List.mem_cons, w.visits e, inWin_step_some hp hs e]
  · rw [hrm]; exact w.after
  · rw [hrm]; exact w.evs

theorem WalkPost.rm (hP : P.Good) (hok : ScanOk P m p stop) (hp : p < stop) (hs : slot m.cells p = some (k, v))
    (hd : dec vn k v = true) (w : WalkPost P dec (clearElem P m p).1 p stop (vn + 1) r) :
    WalkPost P dec m p stop vn (r.1, (k, v) :: r.2.1, (clearElem P m p).2 ++ r.2.2) := by
  obtain ⟨g1, g2, g3, _, g5, g6, g7⟩ := rm_step hP hok hp hs
  have hrm : rmListB dec vn ((k, v) :: r.2.1) = (k, v) :: rmListB dec (vn + 1) r.2.1 := by simp [rmListB, hd]
  refine ⟨w.wf, g2.trans w.flags, w.size.trans g3, List.nodup_cons.mpr ⟨?_, w.nodup⟩, fun e => ?_, fun e => ?_, ?_⟩
  · intro hmem
    obtain ⟨e, he, hek⟩ := List.mem_map.mp hmem
    obtain ⟨q, _, _, hq⟩ := (w.visits e).mp he
    exact ((g6 e).mp (Has.of_slot hq)).2 hek
  · rw [List.mem_cons, w.visits e, g7 e, inWin_step_some hp hs e]
  · rw [hrm, w.after e, g6 e, List.map_cons, List.mem_cons, not_or, and_assoc]
  · rw [hrm, List.flatMap_cons, w.evs, flatMap_remEvs_congr g2, g5]

theorem itrRemove_eq (P : Params κ) {it : Itr} (hnr : it.removed = false) :
    itrRemove P m it = ((clearElem P m it.pos).1, (clearElem P m it.pos).2, { it with removed := true }, 0) := by
  unfold itrRemove; rw [hnr]; rfl

theorem ItrOk.removed (hP : P.Good) {it : Itr} (hok : ItrOk P m it) (hs : slot m.cells it.pos = some (k, v)) :
    ItrOk P (clearElem P m it.pos).1 { it with removed := true } :=
  ⟨(rm_step hP hok.scan hok.lt hs).1, hok.lt, nofun⟩

/-- `ih` is the induction hypothesis of `itrWalk_spec`, whose two branches both go on through `m_map_itr_next` -/
theorem itrWalk_next {fuel : Nat} {it : Itr}
    (ih : ∀ it', ItrOk P m it' → it'.removed = false → (it'.stop - it'.pos) + m.length < fuel →
      WalkPost P dec m it'.pos it'.stop vn (itrWalk P dec fuel m (some it') vn))
    (hok : ItrOk P m it) (hf : (it.stop - (if it.removed then it.pos else it.pos + 1)) + m.length < fuel) :
    WalkPost P dec m (if it.removed then it.pos else it.pos + 1) it.stop vn (itrWalk P dec fuel m (itrNext m it) vn) := by
  rcases itrNext_spec hok with ⟨h1, h2⟩ | ⟨it', h1, h2, h3, h4, h5, h6⟩
  · rw [h1, itrWalk_none]; exact walkPost_nil hok.scan.wf h2
  · rw [h1, ← h4]
    exact (ih it' h2 h3 (by rw [h4]; omega)).of_win (by rw [h4]; exact h6)

theorem itrWalk_spec (hP : P.Good) (dec : Nat → κ → Nat → Bool) :
    ∀ (fuel : Nat) (m : Map κ) (it : Itr) (vn : Nat), ItrOk P m it → it.removed = false →
      (it.stop - it.pos) + m.length < fuel →
      WalkPost P dec m it.pos it.stop vn (itrWalk P dec fuel m (some it) vn) := by
  intro fuel
  induction fuel with
  | zero => intro m it vn _ _ hf; omega
  | succ fuel ih =>
    intro m it vn hok hnr hf
    obtain ⟨⟨k, v⟩, hs⟩ := hok.occupied hnr
    have hlt := hok.lt
    have hkey : itrKey m it = some k := by unfold itrKey; rw [hnr, hs]; rfl
    have hget : itrGet m it = some v := by unfold itrGet; rw [hnr, hs]; rfl
    rw [itrWalk, hkey, hget]
    simp only
    cases hd : dec vn k v with
    | true =>
      rw [if_pos rfl, itrRemove_eq P hnr]
      have hlen : (clearElem P m it.pos).1.length + 1 = m.length := (rm_step hP hok.scan hlt hs).2.2.2.1
      exact WalkPost.rm hP hok.scan hlt hs hd
        (itrWalk_next (fun it' => ih _ it' (vn + 1)) (hok.removed hP hs) (by simp only [if_true]; omega))
    | false =>
      rw [if_neg (by simp)]
      have := itrWalk_next (fun it' => ih m it' (vn + 1)) hok (by rw [hnr]; simp only [Bool.false_eq_true, if_false]; omega)
      rw [hnr] at this
      exact WalkPost.keep hok.scan hlt hs hd this

theorem itrWalk_new (hP : P.Good) (hwf : WF P m) (dec : Nat → κ → Nat → Bool) {fuel : Nat}
    (hfuel : 2 * m.size < fuel) :
    ∃ p stop, (∀ e, InWin m.cells p stop e ↔ Has m.cells e) ∧
      WalkPost P dec m p stop 0 (itrWalk P dec fuel m (itrNew m) 0) := by
  rcases itrNew_spec hwf with ⟨h0, h1⟩ | ⟨_, it, h1, h2, h3, h4⟩
  · have hnone : ∀ e, ¬ InWin m.cells 0 0 e := inWin_empty m.cells (Nat.le_refl 0)
    rw [h1, itrWalk_none]
    exact ⟨0, 0, fun e => ⟨fun h => absurd h (hnone e), fun h => absurd h (no_entries_of_length_zero hwf h0 e)⟩,
      walkPost_nil hwf hnone⟩
  · rw [h1]
    have := h2.lt; have := h2.scan.lo; have := hwf.room
    exact ⟨_, _, h4, itrWalk_spec hP dec fuel m it 0 h2 h3 (by omega)⟩

theorem rmListB_true (vn : Nat) (l : List (κ × Nat)) : rmListB (fun _ _ _ => true) vn l = l := by
  induction l generalizing vn with
  | nil => rfl
  | cons e rest ih => simp [rmListB, ih]

theorem clearLoop_none (P : Params κ) (fuel : Nat) (m : Map κ) : clearLoop P fuel m none = (m, []) := by
  cases fuel <;> rfl

/-- the loop of `m_map_clear` is the walk that removes every entry; it keeps no record of what it visits, hence `∃ vis` -/
theorem clearLoop_walk (hP : P.Good) : ∀ (fuel : Nat) (m : Map κ) (vn : Nat) (it : Itr), ItrOk P m it →
    it.removed = false → m.length < fuel →
    ∃ vis, WalkPost P (fun _ _ _ => true) m it.pos it.stop vn
      ((clearLoop P fuel m (some it)).1, vis, (clearLoop P fuel m (some it)).2) := by
  intro fuel
  induction fuel with
  | zero => intro m vn it _ _ hf; omega
  | succ fuel ih =>
    intro m vn it hok hnr hf
    obtain ⟨⟨k, v⟩, hs⟩ := hok.occupied hnr
    have hlt := hok.lt
    rw [clearLoop, itrRemove_eq P hnr]
    have hok1 := hok.removed hP hs
    have hlen : (clearElem P m it.pos).1.length + 1 = m.length := (rm_step hP hok.scan hlt hs).2.2.2.1
    rcases itrNext_spec hok1 with ⟨h1, h2⟩ | ⟨it', h1, h2, h3, h4, _, h6⟩
    · rw [h1, clearLoop_none]
      exact ⟨_, WalkPost.rm hP hok.scan hlt hs rfl (walkPost_nil hok1.scan.wf h2)⟩
    · rw [h1]
      obtain ⟨vis, w⟩ := ih _ (vn + 1) it' h2 h3 (by omega)
      rw [h4] at w
      exact ⟨_, WalkPost.rm hP hok.scan hlt hs rfl (w.of_win h6)⟩

/-- what `m_map_clear` achieves, `r` = (map afterwards, events): every entry removed once, in some order -/
structure ClearPost (P : Params κ) (m : Map κ) (r : Map κ × List (Ev κ)) : Prop where
  wf : WF P r.1
  flags : SameFlags m r.1
  size : r.1.size = m.size
  len : r.1.length = 0
  empty : ∀ e, ¬ Has r.1.cells e
  evs : ∃ order : List (κ × Nat), r.2 = order.flatMap (remEvs m) ∧ (order.map (·.1)).Nodup ∧
    ∀ e, e ∈ order ↔ Has m.cells e

theorem ClearPost.of_walk {r : Map κ × List (Ev κ)} {vis : List (κ × Nat)}
    (hall : ∀ e, InWin m.cells p stop e ↔ Has m.cells e)
    (w : WalkPost P (fun _ _ _ => true) m p stop vn (r.1, vis, r.2)) : ClearPost P m r := by
  have hvis : ∀ e, e ∈ vis ↔ Has m.cells e := fun e => (w.visits e).trans (hall e)
  have hempty : ∀ e, ¬ Has r.1.cells e := by
    intro e he
    have := (w.after e).mp he
    rw [rmListB_true] at this
    exact this.2 (List.mem_map.mpr ⟨e, (hvis e).mpr this.1, rfl⟩)
  refine ⟨w.wf, w.flags, w.size, by rw [w.wf.len]; exact (occ_eq_zero_iff _).mpr hempty, hempty, vis, ?_, w.nodup, hvis⟩
  have := w.evs
  rwa [rmListB_true] at this

theorem clear_spec (hP : P.Good) (hwf : WF P m) : ClearPost P m (clear P m) := by
  unfold clear
  rcases itrNew_spec hwf with ⟨h0, h1⟩ | ⟨h0, it, h1, h2, h3, h4⟩
  · rw [h1, clearLoop_none]
    have hempty := no_entries_of_length_zero hwf h0
    exact ⟨hwf, SameFlags.refl m, rfl, h0, hempty, [], rfl, by simp, fun e => by simpa using hempty e⟩
  · rw [h1]
    obtain ⟨vis, w⟩ := clearLoop_walk hP (m.length + 1) m 0 it h2 h3 (by omega)
    exact ClearPost.of_walk h4 w

end

def isRm (cb : Nat → κ → Nat → CbAct κ) (i : Nat) (k : κ) (v : Nat) : Bool :=
  match cb i k v with | .rm => true | _ => false

theorem rmList_eq (cb : Nat → κ → Nat → CbAct κ) (vn : Nat) (l : List (κ × Nat)) :
    rmList cb vn l = rmListB (isRm cb) vn l := by
  induction l generalizing vn with
  | nil => rfl
  | cons e rest ih => cases h : cb vn e.1 e.2 <;> simp [rmList, rmListB, isRm, ih, h]

theorem outEvs_rm {k : κ} {v : Nat} (evs : List (Ev κ)) (rc : Int) (rest : List (Out κ)) :
    outEvs (Out.visit k v :: (evs.map Out.ev ++ [Out.rc rc]) ++ rest) = evs ++ outEvs rest := by
  simp [outEvs, outEvs_append, outEvs_evs]

theorem visitsOf_rm {k : κ} {v : Nat} (evs : List (Ev κ)) (rc : Int) (rest : List (Out κ)) :
    visitsOf (Out.visit k v :: (evs.map Out.ev ++ [Out.rc rc]) ++ rest) = (k, v) :: visitsOf rest := by
  simp [visitsOf, visitsOf_append, visitsOf_evs]

section
variable [DecidableEq κ] {P : Params κ} {m : Map κ} {p : Nat} {k : κ} {v : Nat}

theorem remove_eq_clearElem (hP : P.Good) (hwf : WF P m) (hs : slot m.cells p = some (k, v)) :
    remove P m k = ((clearElem P m p).1, (clearElem P m p).2, 0) := by
  unfold remove
  rw [if_neg fun h0 => no_entries_of_length_zero hwf h0 _ (Has.of_slot hs)]
  obtain ⟨i, hi, hm⟩ := entryFind_complete hP hwf.size.le hwf.tbl false (Nat.mod_lt p (hwf.pos hP))
    (by rw [slot_mod]; exact hs)
  rw [hi]
  simp only
  rw [clearElem_congr P (i' := p) (by rw [Map.size, hm])]

theorem iterLoop_walk (hP : P.Good) {cb : Nat → κ → Nat → CbAct κ} (hcb : ContRm cb) (stop : Nat) :
    ∀ (fuel : Nat) (m : Map κ) (p vn : Nat), ScanOk P m p stop → (stop - p) + m.length < fuel →
      (iterLoop P cb fuel m p stop vn).2.2 = 0 ∧
      WalkPost P (isRm cb) m p stop vn ((iterLoop P cb fuel m p stop vn).1,
        visitsOf (iterLoop P cb fuel m p stop vn).2.1, outEvs (iterLoop P cb fuel m p stop vn).2.1) := by
  intro fuel
  induction fuel with
  | zero => intro m p vn _ hf; omega
  | succ fuel ih =>
    intro m p vn hok hf
    rw [iterLoop]
    by_cases hp : p < stop
    · rw [if_pos hp]
      cases hs : slot m.cells p with
      | none =>
        obtain ⟨h0, w⟩ := ih m (p + 1) vn hok.next (by omega)
        exact ⟨h0, w.of_win fun e => (inWin_step_none stop hs e).symm⟩
      | some kv =>
        obtain ⟨k, v⟩ := kv
        rcases hcb vn k v with hc | hc
        · -- kept: same key in the slot, same length: on to `p + 1`
          have hk : (Option.map (fun x => x.1) (slot m.cells p) ≠ some k) = False := by rw [hs]; simp
          obtain ⟨h0, w⟩ := ih m (p + 1) (vn + 1) hok.next (by omega)
          simp only [hc, runCb, Int.lt_irrefl, if_false, hk, ne_eq, not_true_eq_false]
          exact ⟨h0, WalkPost.keep hok hp hs (by simp [isRm, hc]) w⟩
        · -- removed: the key in the slot has changed: the slot is run again
          obtain ⟨g1, _, _, g4, _, g6, _⟩ := rm_step hP hok hp hs
          have hk : (Option.map (fun x => x.1) (slot (clearElem P m p).1.cells p) ≠ some k) = True := by
            apply eq_true
            intro hh
            obtain ⟨e, he, hek⟩ := Option.map_eq_some_iff.mp hh
            exact ((g6 e).mp (Has.of_slot he)).2 hek
          obtain ⟨h0, w⟩ := ih (clearElem P m p).1 p (vn + 1) g1 (by omega)
          simp only [hc, runCb, remove_eq_clearElem hP hok.wf hs, Int.lt_irrefl, if_false, hk, if_true]
          rw [outEvs_rm, visitsOf_rm]
          exact ⟨h0, WalkPost.rm hP hok hp hs (by simp [isRm, hc]) w⟩
    · rw [if_neg hp]
      exact ⟨rfl, walkPost_nil hok.wf (inWin_empty m.cells (by omega))⟩

theorem iterLoop_spec (hP : P.Good) {cb : Nat → κ → Nat → CbAct κ} (hcb : ContRm cb) {stop : Nat}
    (fuel vn : Nat) (hok : ScanOk P m p stop) (hf : (stop - p) + m.length < fuel) :
    IterPost P cb m p stop vn (iterLoop P cb fuel m p stop vn) := by
  obtain ⟨h0, w⟩ := iterLoop_walk hP hcb stop fuel m p vn hok hf
  exact ⟨h0, w.wf, w.flags, w.size, w.nodup, w.visits, by rw [rmList_eq]; exact w.after, by rw [rmList_eq]; exact w.evs⟩

end

theorem itrSet_spec {P : Params κ} {m : Map κ} (hwf : WF P m) (it : Itr) (v : Nat) :
    WF P (itrSet m it v).1 ∧ SameFlags m (itrSet m it v).1 ∧ (itrSet m it v).1.length = m.length ∧
    SameKeys m.cells (itrSet m it v).1.cells ∧
    ((it.removed = true ∨ v = 0) → itrSet m it v = (m, -22)) ∧
    (it.removed = false → v ≠ 0 → ∀ k w, slot m.cells it.pos = some (k, w) →
      (itrSet m it v).2 = 0 ∧ ∀ e, Has (itrSet m it v).1.cells e ↔ e = (k, v) ∨ (Has m.cells e ∧ e.1 ≠ k)) := by
  have same := SameKeys.refl m.cells
  unfold itrSet
  by_cases hr : it.removed = true
  · rw [if_pos hr]
    exact ⟨hwf, SameFlags.refl m, rfl, same, fun _ => rfl, fun h => by rw [hr] at h; cases h⟩
  · rw [if_neg hr]
    by_cases hv : v = 0
    · rw [if_pos hv]
      exact ⟨hwf, SameFlags.refl m, rfl, same, fun _ => rfl, fun _ h => absurd hv h⟩
    · rw [if_neg hv]
      cases hs : slot m.cells it.pos with
      | none => exact ⟨hwf, SameFlags.refl m, rfl, same, fun h => (h.elim hr hv).elim, fun _ _ _ _ h => by cases h⟩
      | some e =>
        exact ⟨hwf.update hs v, ⟨rfl, rfl, rfl, rfl⟩, rfl, SameKeys.update hs v,
          fun h => (h.elim hr hv).elim, fun _ _ _ _ h => by cases h; exact ⟨rfl, has_update hwf.tbl hs v⟩⟩

end Lm.Struct.Map
