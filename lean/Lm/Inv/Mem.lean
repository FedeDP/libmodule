import Lm.Mem
/-! What the reference-count machine keeps between calls: every counter balanced against the
references that exist (`Bal`), destructor and release logged once per dead block and in that order
(`LogInvP`, `Ord`), the static attributes of the blocks (`attrs`). -/
namespace Lm.Mem

def owners (s : St) (j : Nat) : Nat := s.heap.countP (fun b => b.live && b.child == some j)

theorem getElem?_set_of {α} {l : List α} {i : Nat} {a : α} (h : l[i]? = some a) (a' : α) (k : Nat) :
    (l.set i a')[k]? = if i = k then some a' else l[k]? := by
  rw [List.getElem?_set]; simp [(List.getElem?_eq_some_iff.mp h).1]

theorem getElem?_push {α} (l : List α) (a : α) (k : Nat) :
    (l ++ [a])[k]? = if l.length = k then some a else l[k]? := by
  rw [List.getElem?_append]; split
  · rw [if_neg (by omega)]
  · split
    · simp [*]
    · rw [List.getElem?_eq_none (by simp; omega), List.getElem?_eq_none (by omega)]

theorem owners_pos_iff {s : St} {j : Nat} :
    1 ≤ owners s j ↔ ∃ (k : Nat) (c : Block), s.heap[k]? = some c ∧ c.live = true ∧ c.child = some j := by
  rw [owners, ← Nat.lt_iff_add_one_le, List.countP_pos_iff]
  constructor
  · rintro ⟨c, hc, hp⟩
    obtain ⟨k, hk, rfl⟩ := List.getElem_of_mem hc
    exact ⟨k, _, List.getElem?_eq_getElem hk, by simpa using hp⟩
  · rintro ⟨k, c, hk, hl, hc⟩
    exact ⟨c, List.mem_of_getElem? hk, by simp [hl, hc]⟩

theorem owners_set {s : St} {i : Nat} {b : Block} (h : s.heap[i]? = some b) (b' : Block) (j : Nat) :
    owners { s with heap := s.heap.set i b' } j + (if b.live && b.child == some j then 1 else 0)
      = owners s j + (if b'.live && b'.child == some j then 1 else 0) := by
  obtain ⟨hlt, hget⟩ := List.getElem?_eq_some_iff.mp h
  have e : owners { s with heap := s.heap.set i b' } j = owners s j
      - (if (b.live && b.child == some j) = true then 1 else 0) + (if (b'.live && b'.child == some j) = true then 1 else 0) := by
    rw [owners, owners]; simp only; rw [List.countP_set hlt, hget]
  rw [e]
  by_cases hx : (b.live && b.child == some j) = true
  · have : 1 ≤ owners s j := owners_pos_iff.mpr ⟨i, b, h, by simpa using hx⟩
    rw [if_pos hx]; omega
  · rw [if_neg hx]; omega

theorem owners_set_same {s : St} {i : Nat} {b b' : Block} (h : s.heap[i]? = some b)
    (hl : b'.live = b.live) (hc : b'.child = b.child) (j : Nat) :
    owners { s with heap := s.heap.set i b' } j = owners s j := by
  have := owners_set h b' j; rw [hl, hc] at this; omega

theorem owners_push (s : St) (nb : Block) (j : Nat) :
    owners { s with heap := s.heap ++ [nb] } j = owners s j + (if nb.live && nb.child == some j then 1 else 0) := by
  simp [owners, List.countP_append, List.countP_cons]

/-- `ex` names the block on which a reference is about to be dropped: still counted in `refs`, held by nobody. -/
structure Bal (s : St) (ex : Option Nat) : Prop where
  refs : ∀ (i : Nat) (b : Block), s.heap[i]? = some b → b.live = true →
    b.refs = b.user + owners s i + (if ex = some i then 1 else 0) ∧ 1 ≤ b.refs
  child : ∀ (i : Nat) (b : Block) (j : Nat), s.heap[i]? = some b → b.live = true → b.child = some j →
    j < i ∧ ∃ c, s.heap[j]? = some c ∧ c.live = true
  dead : ∀ (i : Nat) (b : Block), s.heap[i]? = some b → b.live = false → b.user = 0

/-- one cell of the heap changes: `hget` covers both overwriting cell `i` and appending (`i` the length) -/
theorem Bal.update {s s' : St} {ex ex' : Option Nat} {i : Nat} {b' : Block} (h : Bal s ex)
    (hget : ∀ k, s'.heap[k]? = if i = k then some b' else s.heap[k]?)
    (hclaim : ∀ k, k ≠ i → owners s' k + (if ex' = some k then 1 else 0) = owners s k + (if ex = some k then 1 else 0))
    (hnew : b'.live = true → (b'.refs = b'.user + owners s' i + (if ex' = some i then 1 else 0) ∧ 1 ≤ b'.refs) ∧
      ∀ j, b'.child = some j → j < i ∧ ∃ c, s.heap[j]? = some c ∧ c.live = true)
    (hdead : b'.live = false → b'.user = 0 ∧ ∀ (k : Nat) (c : Block), s.heap[k]? = some c → c.live = true → c.child ≠ some i) :
    Bal s' ex' := by
  refine ⟨fun k c hk hcl => ?_, fun k c j hk hcl hcj => ?_, fun k c hk hcl => ?_⟩
  all_goals rw [hget] at hk; split at hk
  · cases hk; subst k; exact (hnew hcl).1
  · rename_i hik
    have := h.refs k c hk hcl
    have := hclaim k (Ne.symm hik)
    omega
  · cases hk; subst k
    obtain ⟨hji, c', hc', hl'⟩ := (hnew hcl).2 j hcj
    exact ⟨hji, c', by rw [hget, if_neg (by omega)]; exact hc', hl'⟩
  · obtain ⟨hjk, c', hc', hl'⟩ := h.child k c j hk hcl hcj
    refine ⟨hjk, ?_⟩
    rw [hget]; split
    · subst j
      cases hb' : b'.live with
      | true => exact ⟨b', rfl, hb'⟩
      | false => exact absurd hcj ((hdead hb').2 k c hk hcl)
    · exact ⟨c', hc', hl'⟩
  · cases hk; exact (hdead hcl).1
  · exact h.dead k c hk hcl

theorem Bal.set {s : St} {ex ex' : Option Nat} {i : Nat} {b b' : Block} (h : Bal s ex) (hb : s.heap[i]? = some b)
    (hlive : b.live = true) (hl : b'.live = true) (hc : b'.child = b.child)
    (hr : b'.refs = b'.user + owners s i + (if ex' = some i then 1 else 0)) (hp : 1 ≤ b'.refs)
    (hex : ∀ k, k ≠ i → (ex' = some k ↔ ex = some k)) :
    Bal { s with heap := s.heap.set i b' } ex' := by
  have hown := owners_set_same hb (hl.trans hlive.symm) hc
  exact h.update (getElem?_set_of hb b') (fun k hk => by rw [hown]; simp only [hex k hk])
    (fun _ => ⟨⟨by rw [hown]; exact hr, hp⟩, fun j hj => h.child i b j hb hlive (hc ▸ hj)⟩)
    (fun e => by rw [hl] at e; cases e)

theorem Bal.killed {s : St} {i : Nat} {b : Block} (h : Bal s (some i)) (hb : s.heap[i]? = some b)
    (hlive : b.live = true) (h1 : b.refs = 1) : Bal (kill s i b) b.child := by
  have hi := (h.refs i b hb hlive).1
  rw [if_pos rfl] at hi
  -- nobody holds `i` any more: neither the caller nor a live owner
  have hnochild : ∀ (k : Nat) (c : Block), s.heap[k]? = some c → c.live = true → c.child ≠ some i := fun k c hk hl hc => by
    have := owners_pos_iff.mpr ⟨k, c, hk, hl, hc⟩; omega
  refine h.update (b' := { b with live := false, refs := 0 }) (getElem?_set_of hb _) (fun k hk => ?_)
    (fun e => by cases e) (fun _ => ⟨by show b.user = 0; omega, hnochild⟩)
  -- `i` is no longer an owner of its child: the reference it held is now the one about to be dropped
  have : owners (kill s i b) k + _ = _ := owners_set hb { b with live := false, refs := 0 } k
  simp [hlive] at this
  rw [if_neg (fun e => hk (Option.some.inj e).symm)]
  omega

theorem Bal.push {s : St} {nb : Block} (h : Bal s nb.child) (hl : nb.live = true) (hr : nb.refs = 1) (hu : nb.user = 1)
    (hc : ∀ j, nb.child = some j → ∃ c, s.heap[j]? = some c ∧ c.live = true) :
    Bal { s with heap := s.heap ++ [nb] } none := by
  -- the fresh index has no owner yet: owners are younger than what they own
  have hfresh : owners s s.heap.length = 0 := Nat.eq_zero_of_not_pos fun hp => by
    obtain ⟨k, c, hk, hl, hc⟩ := owners_pos_iff.mp hp
    have := (h.child k c _ hk hl hc).1
    have := (List.getElem?_eq_some_iff.mp hk).1
    omega
  have hlt : ∀ j, nb.child = some j → j < s.heap.length := fun j hj => by
    obtain ⟨c, hc, _⟩ := hc j hj; exact (List.getElem?_eq_some_iff.mp hc).1
  -- the reference about to be dropped is now held by the new block, an owner
  refine h.update (i := s.heap.length) (b' := nb) (getElem?_push _ nb) (fun k _ => by rw [owners_push, hl]; simp)
    (fun _ => ⟨⟨?_, by omega⟩, fun j hj => ⟨hlt j hj, hc j hj⟩⟩) (fun e => by rw [hl] at e; cases e)
  have : nb.child ≠ some s.heap.length := fun e => Nat.lt_irrefl _ (hlt _ e)
  simp [owners_push, hr, hu, hfresh, hl, this]

theorem Bal.log {s : St} {ex : Option Nat} (h : Bal s ex) (l : List Ev) : Bal { s with log := l } ex :=
  ⟨h.refs, h.child, h.dead⟩

theorem Bal.handOver {s : St} {i : Nat} {b : Block} (h : Bal s none) (hb : s.heap[i]? = some b)
    (hlive : b.live = true) (hu : 1 ≤ b.user) :
    giveUp s i = { s with heap := s.heap.set i { b with user := b.user - 1 } } ∧ Bal (giveUp s i) (some i) := by
  have e : giveUp s i = { s with heap := s.heap.set i { b with user := b.user - 1 } } := by simp [Mem.giveUp, hb]
  have := h.refs i b hb hlive
  refine ⟨e, e ▸ h.set hb hlive hlive rfl ?_ this.2 (by simp +contextual [eq_comm])⟩
  simp at this ⊢; omega

/-- `i < fuel`: nesting `i + 1` is enough, since a destructor only drops a reference on an older block (`Bal.child`) -/
theorem dropRef_bal : ∀ (fuel i : Nat) (s : St) (b : Block), i < fuel → Bal s (some i) →
    s.heap[i]? = some b → b.live = true →
    Bal (dropRef fuel i s) none ∧ (dropRef fuel i s).fault = s.fault
  | 0, _, _, _, h, _, _, _ => by omega
  | n + 1, i, s, b, hfuel, h, hb, hlive => by
    have hi := h.refs i b hb hlive
    rw [if_pos rfl] at hi
    simp only [dropRef, hb, hlive, Bool.not_true, Bool.false_eq_true, if_false]
    split
    · rename_i h1
      have h1' := h.killed hb hlive h1
      cases hc : b.child with
      | none => rw [hc] at h1'; exact ⟨h1'.log _, rfl⟩
      | some j =>
        rw [hc] at h1'
        obtain ⟨hji, cj, hcj, hlj⟩ := h.child i b j hb hlive hc
        have hcj1 : (kill s i b).heap[j]? = some cj := by
          simp only [kill, getElem?_set_of hb]; rw [if_neg (by omega)]; exact hcj
        have ih := dropRef_bal n j (kill s i b) cj (by omega) h1' hcj1 hlj
        exact ⟨ih.1.log _, ih.2⟩
    · exact ⟨h.set hb hlive rfl rfl (by simp; omega) (by show 1 ≤ b.refs - 1; omega) (by simp +contextual [eq_comm]), rfl⟩

theorem live_has_user {s : St} (hR : Bal s none) {i : Nat} {b : Block} (hb : s.heap[i]? = some b) (hl : b.live = true) :
    ∃ (k : Nat) (c : Block), s.heap[k]? = some c ∧ c.live = true ∧ 1 ≤ c.user := by
  induction hn : s.heap.length - i using Nat.strongRecOn generalizing i b with
  | _ n ih =>
    obtain ⟨hr, hg⟩ := hR.refs i b hb hl
    simp at hr
    by_cases hu : 1 ≤ b.user
    · exact ⟨i, b, hb, hl, hu⟩
    · -- a live block without caller reference has an owner, which is younger: go on from there
      obtain ⟨k, c, hk, hcl, hc⟩ := owners_pos_iff.mp (show 1 ≤ owners s i by omega)
      have hik := (hR.child k c i hk hcl hc).1
      have hkl := (List.getElem?_eq_some_iff.mp hk).1
      exact ih (s.heap.length - k) (by omega) hk hcl rfl

def cnt (e : Ev) (l : List Ev) : Nat := l.count e

/-- `P k`: block `k` is dead and its destruction is still in progress: `free k` is not logged yet -/
def LogInvP (s : St) (P : Nat → Bool) : Prop :=
  ∀ k, (P k = true → ∃ b, s.heap[k]? = some b ∧ b.live = false) ∧
       (s.log.count (Ev.free k) = match s.heap[k]? with
          | some b => if b.live then 0 else if P k then 0 else 1
          | none => 0) ∧
       (s.log.count (Ev.dtor k) = match s.heap[k]? with
          | some b => if !b.live && b.dtor then 1 else 0
          | none => 0)

def Ord (l : List Ev) : Prop := l.Pairwise fun a b => ∀ i, a = Ev.free i → b ≠ Ev.dtor i

theorem Ord.split {l : List Ev} (h : Ord l) {i : Nat} {l1 l2 : List Ev} (e : l = l1 ++ Ev.free i :: l2) :
    Ev.dtor i ∉ l2 := fun hm => by
  subst e
  exact (List.pairwise_cons.mp (List.pairwise_append.mp h).2.1).1 _ hm i rfl rfl

theorem Ord.free {l : List Ev} (h : Ord l) (k : Nat) : Ord (l ++ [Ev.free k]) :=
  List.pairwise_append.mpr ⟨h, List.pairwise_singleton _ _, fun _ _ _ hb i _ => by cases List.mem_singleton.mp hb; simp⟩

theorem Ord.dtor {l : List Ev} (h : Ord l) {k : Nat} (hk : Ev.free k ∉ l) : Ord (l ++ [Ev.dtor k]) :=
  List.pairwise_append.mpr ⟨h, List.pairwise_singleton _ _, fun a ha _ hb i e => by
    cases List.mem_singleton.mp hb; subst e; intro e; cases e; exact hk ha⟩

theorem LogInvP.idle {s : St} {P : Nat → Bool} (h : LogInvP s P) {k : Nat}
    (hk : ∀ b, s.heap[k]? = some b → b.live = true) : P k = false :=
  Bool.eq_false_iff.mpr fun hp => by
    obtain ⟨b, e, hl⟩ := (h k).1 hp
    rw [hk b e] at hl; cases hl

theorem LogInvP.set {s : St} {P : Nat → Bool} {i : Nat} {b b' : Block} (h : LogInvP s P) (hb : s.heap[i]? = some b)
    (hl : b'.live = b.live) (hd : b'.dtor = b.dtor) : LogInvP { s with heap := s.heap.set i b' } P := by
  intro k
  have hk := h k
  simp only [getElem?_set_of hb]
  split
  · subst k; rw [hb] at hk; simpa [hl, hd] using hk
  · exact hk

theorem LogInvP.push {s : St} {P : Nat → Bool} {nb : Block} (h : LogInvP s P) (hl : nb.live = true) :
    LogInvP { s with heap := s.heap ++ [nb] } P := by
  intro k
  have hk := h k
  simp only [getElem?_push]
  split
  · subst k
    have hnone : s.heap[s.heap.length]? = none := List.getElem?_eq_none (Nat.le_refl _)
    rw [hnone] at hk
    simpa [hl, h.idle fun b e => by rw [hnone] at e; cases e] using hk
  · exact hk

theorem LogInvP.killed {s : St} {P : Nat → Bool} {i : Nat} {b : Block} (h : LogInvP s P) (hO : Ord s.log)
    (hb : s.heap[i]? = some b) (hlive : b.live = true) :
    LogInvP (kill s i b) (fun k => P k || k == i) ∧ Ord (kill s i b).log := by
  have hi := h i
  simp only [hb, hlive, if_true, Bool.not_true, Bool.false_and, Bool.false_eq_true, if_false] at hi
  refine ⟨fun k => ?_, ?_⟩
  · have hk := h k
    simp only [kill, getElem?_set_of hb, List.count_append]
    split
    · subst k
      refine ⟨fun _ => ⟨_, rfl, rfl⟩, ?_, ?_⟩ <;> cases b.dtor <;> simp [hi.2.1, hi.2.2]
    · rename_i hik
      have hki : (k == i) = false := by simp [Ne.symm hik]
      refine ⟨fun hp => hk.1 (by simpa [hki] using hp), ?_, ?_⟩ <;> cases b.dtor <;> simp [hk.2.1, hk.2.2, hki, hik]
  · simp only [kill]
    cases b.dtor
    · simpa using hO
    · exact hO.dtor (List.count_eq_zero.mp hi.2.1)

theorem LogInvP.freed {s : St} {P : Nat → Bool} {i : Nat} (h : LogInvP s (fun k => P k || k == i)) (hPi : P i = false) :
    LogInvP { s with log := s.log ++ [Ev.free i] } P := by
  intro k
  have hk := h k
  simp only [List.count_append]
  by_cases hik : k = i
  · subst k
    obtain ⟨c, hc, hcl⟩ := hk.1 (by simp)
    refine ⟨fun hp => (by rw [hPi] at hp; cases hp), ?_, ?_⟩
    · rw [hk.2.1, hc]; simp [hcl, hPi]
    · rw [hk.2.2]; simp
  · have hki : (k == i) = false := by simp [hik]
    refine ⟨fun hp => hk.1 (by simp [hp]), ?_, ?_⟩
    · rw [hk.2.1]; simp [hki, Ne.symm hik]
    · rw [hk.2.2]; simp

theorem dropRef_log : ∀ (fuel i : Nat) (s : St) (P : Nat → Bool), LogInvP s P → Ord s.log →
    LogInvP (dropRef fuel i s) P ∧ Ord (dropRef fuel i s).log
  | 0, _, _, _, h1, h2 => ⟨h1, h2⟩
  | n + 1, i, s, P, hL, hO => by
    unfold dropRef
    split
    · rename_i b hb
      cases hlive : b.live with
      | false => exact ⟨hL, hO⟩
      | true =>
        simp only [Bool.not_true, Bool.false_eq_true, if_false]
        split
        · have hPi : P i = false := hL.idle fun c e => by rw [hb] at e; cases e; exact hlive
          have h1 := hL.killed hO hb hlive
          cases b.child with
          | none => exact ⟨h1.1.freed hPi, h1.2.free i⟩
          | some j =>
            have h2 := dropRef_log n j _ _ h1.1 h1.2
            exact ⟨h2.1.freed hPi, h2.2.free i⟩
        · exact ⟨hL.set hb hlive.symm rfl, hO⟩
    · exact ⟨hL, hO⟩

structure Good (s : St) : Prop where
  bal : Bal s none
  log : LogInvP s (fun _ => false)
  ord : Ord s.log
  nofault : s.fault = false

theorem good_init : Good {} :=
  ⟨⟨fun i b h => by simp at h, fun i b j h => by simp at h, fun i b h => by simp at h⟩, fun k => by simp, List.Pairwise.nil, rfl⟩

theorem step_good (s : St) (o : Op) (hok : okOp s o = true) (g : Good s) : Good (step s o).1 := by
  obtain ⟨hB, hL, hO, hF⟩ := g
  -- a handle the precondition lets through names a live block the caller holds a reference on
  have held : ∀ i : Nat, (match s.heap[i]? with | some b => b.live && decide (1 ≤ b.user) | none => false) = true →
      ∃ b, s.heap[i]? = some b ∧ b.live = true ∧ 1 ≤ b.user := fun i h => by
    cases hb : s.heap[i]? with
    | none => simp [hb] at h
    | some b => simpa [hb] using h
  cases o with
  | size i =>
    obtain ⟨b, hb, hlive, _⟩ := held i hok
    simpa [step, hb, hlive] using ⟨hB, hL, hO, hF⟩
  | ref i =>
    obtain ⟨b, hb, hlive, _⟩ := held i hok
    have := (hB.refs i b hb hlive).1
    simp only [step, hb, hlive, if_true]
    exact ⟨hB.set hb hlive rfl rfl (by simp at this ⊢; omega) (by simp) (fun _ _ => Iff.rfl), hL.set hb hlive.symm rfl, hO, hF⟩
  | unref i =>
    obtain ⟨b, hb, hlive, hu⟩ := held i hok
    obtain ⟨e, hB'⟩ := hB.handOver hb hlive hu
    have hb' : (giveUp s i).heap[i]? = some { b with user := b.user - 1 } := by simp [e, getElem?_set_of hb]
    have k1 := dropRef_bal (i + 1) i _ _ (by omega) hB' hb' hlive
    have k2 := dropRef_log (i + 1) i (giveUp s i) _ (e ▸ hL.set (b' := { b with user := b.user - 1 }) hb rfl rfl) (e ▸ hO)
    exact ⟨k1.1, k2.1, k2.2, by rw [show (step s (.unref i)).1.fault = _ from k1.2, e]; exact hF⟩
  | new size dtor owns =>
    let nb : Block := { live := true, refs := 1, user := 1, size := size, dtor := dtor, owns := owns }
    cases owns with
    | none =>
      have hc : nb.child = none := by cases dtor <;> rfl
      exact ⟨Bal.push (nb := nb) (by rw [hc]; exact hB) rfl rfl rfl (fun j hj => by rw [hc] at hj; cases hj), hL.push (nb := nb) rfl, hO, hF⟩
    | some j =>
      simp only [okOp, Bool.and_eq_true] at hok
      obtain ⟨rfl, hok⟩ := hok
      obtain ⟨b, hb, hlive, hu⟩ := held j hok
      obtain ⟨e, hB'⟩ := hB.handOver hb hlive hu
      simp only [step, e] at hB' ⊢
      refine ⟨Bal.push (nb := nb) hB' rfl rfl rfl ?_, (hL.set (b' := { b with user := b.user - 1 }) hb rfl rfl).push (nb := nb) rfl, hO, hF⟩
      intro j' hj'
      cases hj'
      exact ⟨{ b with user := b.user - 1 }, by simp [getElem?_set_of hb], hlive⟩

theorem run_good : ∀ (ops : List Op) (s : St), okRun s ops = true → Good s → Good (run s ops)
  | [], _, _, g => g
  | o :: os, s, hok, g => by
    simp only [okRun, Bool.and_eq_true] at hok
    exact run_good os _ hok.2 (step_good s o hok.1 g)

def attrs (s : St) : List (Nat × Bool) := s.heap.map (fun b => (b.size, b.dtor))

theorem attrs_set {s : St} {i : Nat} {b : Block} (hb : s.heap[i]? = some b) (b' : Block)
    (hs : b'.size = b.size) (hd : b'.dtor = b.dtor) : attrs { s with heap := s.heap.set i b' } = attrs s := by
  apply List.ext_getElem?
  intro k
  simp only [attrs, List.getElem?_map, getElem?_set_of hb]
  split
  · subst k; simp [hb, hs, hd]
  · rfl

theorem giveUp_attrs (s : St) (i : Nat) : attrs (giveUp s i) = attrs s := by
  unfold giveUp
  split
  · rename_i b hb; exact attrs_set hb _ rfl rfl
  · rfl

theorem dropRef_attrs : ∀ (fuel i : Nat) (s : St), attrs (dropRef fuel i s) = attrs s
  | 0, _, _ => rfl
  | n + 1, i, s => by
    unfold dropRef
    split
    · rename_i b hb
      have hk : attrs (kill s i b) = attrs s := attrs_set hb _ rfl rfl
      split
      · rfl
      · split
        · cases b.child with
          | none => exact hk
          | some j => exact (dropRef_attrs n j _).trans hk
        · exact attrs_set hb _ rfl rfl
    · rfl

theorem dropRef_length : ∀ (fuel i : Nat) (s : St), (dropRef fuel i s).heap.length = s.heap.length := by
  intro fuel i s
  simpa [attrs] using congrArg List.length (dropRef_attrs fuel i s)

def newAttrs : List Op → List (Nat × Bool)
  | [] => []
  | .new size dtor _ :: os => (size, dtor) :: newAttrs os
  | _ :: os => newAttrs os

theorem step_attrs (s : St) (o : Op) : attrs (step s o).1 = attrs s ++ newAttrs [o] := by
  cases o with
  | new size dtor owns =>
    have : ∀ s1 : St, attrs s1 = attrs s → attrs { s1 with heap := s1.heap ++ [⟨true, 1, 1, size, dtor, owns⟩] } =
        attrs s ++ [(size, dtor)] := fun s1 e => by simp [attrs] at e ⊢; exact e
    cases owns with
    | none => exact this s rfl
    | some j => exact this _ (giveUp_attrs s j)
  | ref i =>
    simp only [step, newAttrs, List.append_nil]
    split
    · rename_i b hb
      split
      · exact attrs_set hb _ rfl rfl
      · rfl
    · rfl
  | unref i => simp only [step, newAttrs, List.append_nil, dropRef_attrs, giveUp_attrs]
  | size i =>
    simp only [step, newAttrs, List.append_nil]
    split
    · split <;> rfl
    · rfl

theorem newAttrs_cons (o : Op) (os : List Op) : newAttrs (o :: os) = newAttrs [o] ++ newAttrs os := by
  cases o <;> simp [newAttrs]

theorem run_attrs : ∀ (ops : List Op) (s : St), attrs (run s ops) = attrs s ++ newAttrs ops
  | [], s => by simp [run, newAttrs]
  | o :: os, s => by
    have := run_attrs os (step s o).1
    simp only [run, List.foldl_cons] at this ⊢
    rw [this, step_attrs, newAttrs_cons o os, List.append_assoc]

end Lm.Mem
