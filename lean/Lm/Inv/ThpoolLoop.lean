import Lm.Inv.ThpoolInv
/-!
Preservation of the invariants about the worker loop and about the shutdown check of `m_thpool_add`.

`waitShut`, `breakChk`, `breakLen`, `deqNonempty` and `pastChkNo` are assertions at program counters where the thread
holds the mutex, about the queue and `shutdown`: its own step establishes them from the test it has just made, and no
other thread can disturb them (`locked_frame`).  `exitShut` and `exitAllEmpty` hold from the loop exit on, because
`shutdown` is never reset and a pool that is shutting down accepts nothing.
-/
namespace Lm.Thpool
variable {s s' : State} {l : Label} {u : Tid}

theorem waitShut_step (hi : Inv s) (h : Step s l s') : ∀ u, s'.pc u = .wWait → s'.shutdown = .no := by
  intro u hu
  by_cases ht : u = l.tid
  · subst ht
    cases h <;> simp only [State.goto, upd_same, *] at hu <;> try contradiction
    case wLoop_wait hc => exact hc.2
  · rw [h.pc_other ht (by simp [hu])] at hu
    rw [(locked_frame hi h ht (by simp [hu])).2]
    exact hi.waitShut u hu

theorem breakChk_step (hi : Inv s) (h : Step s l s') : ∀ u, s'.pc u = .wBreakChk → s'.tasks ≠ [] ∨ s'.shutdown ≠ .no := by
  intro u hu
  by_cases ht : u = l.tid
  · subst ht
    cases h <;> simp only [State.goto, upd_same, *] at hu <;> try contradiction
    case wLoop_break hc => exact Decidable.not_and_iff_or_not.mp hc
  · rw [h.pc_other ht (by simp [hu])] at hu
    rw [(locked_frame hi h ht (by simp [hu])).1, (locked_frame hi h ht (by simp [hu])).2]
    exact hi.breakChk u hu

theorem breakLen_step (hi : Inv s) (h : Step s l s') : ∀ u, s'.pc u = .wBreakLen → s'.shutdown = .waitAll := by
  intro u hu
  by_cases ht : u = l.tid
  · subst ht
    cases h <;> simp only [State.goto, upd_same, *] at hu <;> try contradiction
    case wBreakChk_all hc => exact hc
  · rw [h.pc_other ht (by simp [hu])] at hu
    rw [(locked_frame hi h ht (by simp [hu])).2]
    exact hi.breakLen u hu

theorem deqNonempty_step (hi : Inv s) (h : Step s l s') : ∀ u, s'.pc u = .wDequeue → s'.tasks ≠ [] := by
  intro u hu
  by_cases ht : u = l.tid
  · subst ht
    cases h <;> simp only [State.goto, upd_same, *] at hu <;> try contradiction
    case wBreakChk_no hp hc => exact (hi.breakChk _ hp).resolve_right (absurd hc)
    case wBreakLen_deq hc => exact hc
  · rw [h.pc_other ht (by simp [hu])] at hu
    rw [(locked_frame hi h ht (by simp [hu])).1]
    exact hi.deqNonempty u hu

theorem exitShut_step (hi : Inv s) (h : Step s l s') : ∀ u, exiting (s'.pc u) = true → s'.shutdown ≠ .no := by
  intro u hu
  by_cases ht : u = l.tid
  · subst ht
    have ih := hi.exitShut l.tid
    cases h <;> simp only [State.goto, upd_same, *] at hu <;> try contradiction
    case wBreakChk_curr hc => simp [State.goto, hc]
    case wBreakLen_exit hp _ => simp [State.goto, hi.breakLen _ hp]
    all_goals exact ih (by simp [*])
  · rw [h.cls_other ht exiting rfl] at hu
    exact h.shutdown_ne_no (hi.exitShut u hu)

theorem exitAllEmpty_step (hi : Inv s) (h : Step s l s') :
    ∀ u, exiting (s'.pc u) = true → s'.shutdown = .waitAll → s'.tasks = [] := by
  intro u hu
  by_cases ht : u = l.tid
  · subst ht
    have ih := hi.exitAllEmpty l.tid
    cases h <;> simp only [State.goto, upd_same, *] at hu <;> try contradiction
    case wBreakChk_curr hc => simp [State.goto, hc]
    case wBreakLen_exit hc => exact fun _ => hc
    all_goals exact ih (by simp [*])
  · -- the pool is shutting down: `shutdown` stays, nothing can be enqueued, and an empty queue has nothing to dequeue
    rw [h.cls_other ht exiting rfl] at hu
    have hno := hi.exitShut u hu
    have hsh : s'.shutdown = s.shutdown := (h.shutdown_cases.resolve_right fun e =>
      hno (hi.shutNo (by simp [pc_zero_of_isM hi e.1 rfl]))).1
    rw [hsh]
    intro ha
    have he := hi.exitAllEmpty u hu ha
    rcases h.tasks_cases with e | ⟨_, k, e⟩ | ⟨e, _⟩ | ⟨e, _⟩ | ⟨_, e⟩
    · rwa [e]
    · rw [he] at e; cases e
    · exact (hno (hi.pastChkNo l.tid (by simp [e]))).elim
    · exact (hno (hi.pastChkNo l.tid (by simp [e]))).elim
    · exact e

/-- once thread 0 has broadcast, only thread 0 itself waits on `notify`: a worker waits only while `shutdown` is
`SHUTDOWN_NO` -/
theorem bcastDone_step (hi : Inv s) (h : Step s l s') : 6 ≤ ph (s'.pc 0) → ∀ u, u ∈ s'.waiters → u = 0 := by
  intro hp u hu
  by_cases h6 : 6 ≤ ph (s.pc 0)
  · rcases h.waiters_sub hu with hm | ⟨rfl, hw | hf⟩
    · exact hi.bcastDone h6 u hm
    · have := hi.shutSet (by omega)
      rw [hi.waitShut _ hw] at this
      cases hm : s.mode <;> simp [hm] at this
    · exact zero_of_isM hi (by simp [hf])
  · -- thread 0 has just broadcast
    have h0 : l.tid = 0 := Decidable.byContradiction fun h0 => by
      rw [h.pc_other (Ne.symm h0) (by intro e; simp [e] at hp)] at hp; exact h6 hp
    have hm := hi.mainIsM
    rw [← h0] at hm hp h6
    cases h <;> simp only [State.goto, upd_same, *] at hm hp h6 <;> try contradiction

theorem pastChkNo_step (hi : Inv s) (h : Step s l s') : ∀ u, pastChk (s'.pc u) = true → s'.shutdown = .no := by
  intro u hu
  by_cases ht : u = l.tid
  · subst ht
    have ih := hi.pastChkNo l.tid
    cases h <;> simp only [State.goto, upd_same, *] at hu <;> try contradiction
    case sShutChk_lazy hc _ | sShutChk_eager hc _ | nShutChk_lazy hc _ | nShutChk_eager hc _ => exact hc
    all_goals exact ih (by simp [*])
  · rw [h.cls_other ht pastChk rfl] at hu
    rw [(locked_frame hi h ht ((pastChk_role _ hu).1)).2]
    exact hi.pastChkNo u hu

end Lm.Thpool
