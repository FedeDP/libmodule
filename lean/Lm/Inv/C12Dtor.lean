import Lm.Spec.C12
/-!
Destructor accounting on the array machines.  Every pointer the caller stored in a container is, at
any time, exactly one of: still in the container, handed back to the caller (`deq`/`pop`),
overwritten through `it set` (the caller still owns it; the library does not destroy it), or
destroyed — counted with multiplicity.  So with a destructor installed it runs exactly once per
dropped element and never for a returned one; without one it never runs.

Each call has one of six effects on the content and the destructor calls (`Eff`); which one is read off
the machines once per container (`step_eff`), and both statements are proved per effect.
-/
namespace Lm.Spec.C12
open Lm.Struct

/-- what the caller did: pointers stored, pointers received back, pointers overwritten by `it set` -/
structure Ledger where
  entered : List Val := []
  handed  : List Val := []
  over    : List Val := []
  deriving Repr, DecidableEq

def destroyed (out : List AEv) : List Val := out.filterMap fun e => match e with | .dtor v => some v | _ => none

theorem destroyed_append (l1 l2 : List AEv) : destroyed (l1 ++ l2) = destroyed l1 ++ destroyed l2 := by
  simp [destroyed, List.filterMap_append]

theorem destroyed_drop_true (vs : List Val) : destroyed (drop true vs) = vs := by
  simp [drop, destroyed, List.filterMap_map, Function.comp_def]

theorem drop_false_nil (vs : List Val) : drop false vs = [] := rfl

theorem drop_nil (d : Bool) : drop d [] = [] := by cases d <;> rfl

theorem drop_cons (d : Bool) (x : Val) (r : List Val) : drop d (x :: r) = drop d [x] ++ drop d r := by
  cases d <;> rfl

theorem destroyed_drop_false (vs : List Val) : destroyed (drop false vs) = [] := rfl

theorem destroyed_cur (v : Option Val) : destroyed [AEv.cur v] = [] := rfl
theorem destroyed_cb (vs : List Val) : destroyed [AEv.cb vs] = [] := rfl

def Bal (L : Ledger) (a : ASt) : Prop :=
  (∀ y, L.entered.count y = a.xs.count y + L.handed.count y + L.over.count y + (destroyed a.out).count y) ∧
  a.dtor = true

def NoD (a : ASt) : Prop := a.dtor = false ∧ destroyed a.out = []

theorem count_eraseIdx_add {l : List Val} {i : Nat} {x : Val} (h : l[i]? = some x) (y : Val) :
    l.count y = (l.eraseIdx i).count y + [x].count y := by
  obtain ⟨hi, rfl⟩ := List.getElem?_eq_some_iff.mp h
  conv => lhs; rw [← List.take_append_drop i l, ← List.getElem_cons_drop hi]
  simp only [List.eraseIdx_eq_take_drop_succ, List.count_append, List.count_cons, List.count_nil]
  omega

/-- overwriting is removing and storing -/
theorem count_set_add {l : List Val} {i : Nat} {x : Val} (h : l[i]? = some x) (v y : Val) :
    (l.set i v).count y + [x].count y = l.count y + [v].count y := by
  have hi := (List.getElem?_eq_some_iff.mp h).1
  rw [count_eraseIdx_add h y, count_eraseIdx_add (List.getElem?_set_self hi) y, List.eraseIdx_set_eq]
  omega

theorem count_insertIdx_add {l : List Val} {i : Nat} (h : i ≤ l.length) (v y : Val) :
    (l.insertIdx i v).count y = l.count y + [v].count y := by
  rw [(List.perm_insertIdx v l h).count_eq y]
  simp only [List.count_cons, List.count_nil]; omega

/-- `Eff a L a' L'`: what a call that takes the machine from `a` to `a'` does to the content and to the destructor
calls, and what the caller's ledger records of it -/
inductive Eff (a : ASt) (L : Ledger) : ASt → Ledger → Prop
  | same {a' : ASt} (hx : a'.xs = a.xs) (hd : a'.dtor = a.dtor) (ho : destroyed a'.out = destroyed a.out) : Eff a L a' L
  | store {i : Nat} (hi : i ≤ a.xs.length) (v : Val) (cur : Option ACur) :
      Eff a L { a with xs := a.xs.insertIdx i v, cur := cur } { L with entered := L.entered ++ [v] }
  | hand {x : Val} {r : List Val} (hx : a.xs = x :: r) :
      Eff a L { a with xs := r } { L with handed := L.handed ++ [x] }
  | erase {p : Nat} {x : Val} (hx : a.xs[p]? = some x) (cur : Option ACur) :
      Eff a L { a with xs := a.xs.eraseIdx p, cur := cur, out := a.out ++ drop a.dtor [x] } L
  | dropAll (alive : Bool) (cur : Option ACur) :
      Eff a L { a with alive := alive, xs := [], cur := cur, out := a.out ++ drop a.dtor a.xs } L
  | set {p : Nat} {x : Val} (hx : a.xs[p]? = some x) (v : Val) (cur : Option ACur) :
      Eff a L { a with xs := a.xs.set p v, cur := cur } { L with entered := L.entered ++ [v], over := L.over ++ [x] }

theorem Eff.refl {a : ASt} {L : Ledger} : Eff a L a L := .same rfl rfl rfl

theorem Eff.bal {a a' : ASt} {L L' : Ledger} (e : Eff a L a' L') (h : Bal L a) : Bal L' a' := by
  obtain ⟨hb, hd⟩ := h
  cases e with
  | same hx hd' ho => exact ⟨fun y => by rw [hx, ho]; exact hb y, hd'.trans hd⟩
  | store hi v cur =>
    refine ⟨fun y => ?_, hd⟩
    have h1 := hb y
    have h2 := count_insertIdx_add hi v y
    simp only [List.count_append] at h1 ⊢
    omega
  | hand hx =>
    refine ⟨fun y => ?_, hd⟩
    have h1 := hb y
    simp only [hx, List.count_append, List.count_cons, List.count_nil] at h1 ⊢
    omega
  | erase hx cur =>
    refine ⟨fun y => ?_, hd⟩
    have h1 := hb y
    have h2 := count_eraseIdx_add hx y
    simp only [hd, destroyed_append, destroyed_drop_true, List.count_append] at h1 ⊢
    omega
  | dropAll alive cur =>
    refine ⟨fun y => ?_, hd⟩
    have h1 := hb y
    simp only [hd, destroyed_append, destroyed_drop_true, List.count_append, List.count_nil] at h1 ⊢
    omega
  | set hx v cur =>
    refine ⟨fun y => ?_, hd⟩
    have h1 := hb y
    have h2 := count_set_add hx v y
    simp only [List.count_append] at h1 ⊢
    omega

theorem Eff.nod {a a' : ASt} {L L' : Ledger} (e : Eff a L a' L') (h : NoD a) : NoD a' := by
  have hdrop : ∀ vs, destroyed (a.out ++ drop a.dtor vs) = [] := fun vs => by
    rw [destroyed_append, h.1, destroyed_drop_false, h.2]; rfl
  cases e with
  | same _ hd ho => exact ⟨hd.trans h.1, ho.trans h.2⟩
  | store | hand | set => exact h
  | erase | dropAll => exact ⟨h.1, hdrop _⟩

theorem eff_rmFirst (a : ASt) (L : Ledger) : Eff a L (rmFirst a).1 L := by
  unfold rmFirst
  cases hx : a.xs with
  | nil => exact .refl
  | cons x r =>
    have := Eff.erase (L := L) (p := 0) (x := x) (by rw [hx]; rfl) a.cur
    rw [hx] at this
    exact this

theorem eff_takeFirst (a : ASt) (L : Ledger) :
    Eff a L (takeFirst a).1 (match a.xs with | x :: _ => { L with handed := L.handed ++ [x] } | [] => L) := by
  unfold takeFirst
  cases hx : a.xs with
  | nil => exact .refl
  | cons x r => exact .hand hx

theorem eff_peek (a : ASt) (L : Ledger) : Eff a L (peek a).1 L := by
  unfold peek; split <;> exact .refl

theorem Eff.note (a : ASt) (L : Ledger) (cur : Option ACur) {e : AEv} (he : destroyed [e] = []) :
    Eff a L { a with cur := cur, out := a.out ++ [e] } L :=
  .same rfl rfl (by rw [destroyed_append, he]; exact List.append_nil _)

theorem eff_settle (a : ASt) (L : Ledger) (p : Nat) : Eff a L (settle a p).1 L := by
  unfold settle; split
  · exact .note a L _ (destroyed_cur _)
  · exact .same rfl rfl rfl

theorem eff_itNew (a : ASt) (L : Ledger) : Eff a L (itNew a).1 L := by
  unfold itNew; split
  · exact .note a L _ (destroyed_cur _)
  · exact .same rfl rfl rfl

theorem eff_iterate (a : ASt) (L : Ledger) (k : Option Nat) : Eff a L (iterate a k).1 L := by
  unfold iterate; split
  · exact .refl
  · exact .note a L _ (destroyed_cb _)

theorem Bal.iterate {L : Ledger} {a : ASt} (h : Bal L a) (k : Option Nat) : Bal L (iterate a k).1 :=
  (eff_iterate a L k).bal h

theorem eff_itNext (a : ASt) (L : Ledger) : Eff a L (itNext a).1 L := by
  unfold itNext; split
  · exact .refl
  · exact eff_settle ..

theorem eff_itGet (a : ASt) (L : Ledger) : Eff a L (itGet a).1 L := by
  unfold itGet; split
  · exact .refl
  · split
    · exact .refl
    · split <;> exact .refl

theorem eff_itSet (a : ASt) (L : Ledger) (v : Val) :
    Eff a L (itSet a v).1 (match a.cur with
     | some c => if c.removed ∨ v = 0 then L else
        (match a.xs[c.pos]? with | some x => { L with entered := L.entered ++ [v], over := L.over ++ [x] } | none => L)
     | none => L) := by
  unfold itSet
  cases a.cur with
  | none => exact .refl
  | some c =>
    by_cases hg : c.removed ∨ v = 0
    · simp only [hg, if_true]; exact .refl
    · simp only [hg, if_false]
      cases hx : a.xs[c.pos]? with
      | some x => exact .set hx v _
      | none => exact .same (List.set_eq_of_length_le (by simpa using hx)) rfl rfl

theorem eff_itRm (a : ASt) (L : Ledger) : Eff a L (itRm a).1 L := by
  unfold itRm; split
  · exact .refl
  · split
    · exact .refl
    · split
      · next hx => exact .erase hx _
      · exact .refl

namespace Queue

def ledgerStep (a : ASt) (L : Ledger) : Lm.Struct.Queue.Op → Ledger
  | .enq v => if a.alive ∧ v ≠ 0 then { L with entered := L.entered ++ [v] } else L
  | .deq => (match a.xs with | x :: _ => { L with handed := L.handed ++ [x] } | [] => L)
  | .itSet v =>
    (match a.cur with
     | some c => if c.removed ∨ v = 0 then L else
        (match a.xs[c.pos]? with | some x => { L with entered := L.entered ++ [v], over := L.over ++ [x] } | none => L)
     | none => L)
  | _ => L

def ledger (a : ASt) (L : Ledger) : List Lm.Struct.Queue.Op → Ledger
  | [] => L
  | o :: os => ledger (step a o).1 (ledgerStep a L o) os

theorem step_eff (a : ASt) (L : Ledger) (o : Lm.Struct.Queue.Op) : Eff a L (step a o).1 (ledgerStep a L o) := by
  cases o with
  | enq v =>
    dsimp only [step, ledgerStep]; split
    · exact List.insertIdx_length_self ▸ Eff.store (Nat.le_refl _) v a.cur
    · exact .refl
  | deq => exact eff_takeFirst a L
  | peek => exact eff_peek a L
  | rm => exact eff_rmFirst a L
  | len => exact .refl
  | clear =>
    dsimp only [step, ledgerStep]; split
    · exact .refl
    · exact .dropAll a.alive a.cur
  | free => exact .dropAll false none
  | iterate k => exact eff_iterate a L k
  | itNew => exact eff_itNew a L
  | itNext => exact eff_itNext a L
  | itGet => exact eff_itGet a L
  | itSet v => exact eff_itSet a L v
  | itRm => exact eff_itRm a L

theorem run_inv {P : Ledger → ASt → Prop} (hP : ∀ {a a' : ASt} {L L' : Ledger}, Eff a L a' L' → P L a → P L' a') :
    ∀ (ops : List Lm.Struct.Queue.Op) {a : ASt} {L : Ledger}, P L a → P (ledger a L ops) (run a ops)
  | [], _, _, h => h
  | o :: os, a, L, h => run_inv hP os (hP (step_eff a L o) h)

end Queue

namespace Stack

def ledgerStep (a : ASt) (L : Ledger) : Lm.Struct.Stack.Op → Ledger
  | .push v => if a.alive ∧ v ≠ 0 then { L with entered := L.entered ++ [v] } else L
  | .pop => (match a.xs with | x :: _ => { L with handed := L.handed ++ [x] } | [] => L)
  | .itSet v =>
    (match a.cur with
     | some c => if c.removed ∨ v = 0 then L else
        (match a.xs[c.pos]? with | some x => { L with entered := L.entered ++ [v], over := L.over ++ [x] } | none => L)
     | none => L)
  | _ => L

def ledger (a : ASt) (L : Ledger) : List Lm.Struct.Stack.Op → Ledger
  | [] => L
  | o :: os => ledger (step a o).1 (ledgerStep a L o) os

theorem step_eff (a : ASt) (L : Ledger) (o : Lm.Struct.Stack.Op) : Eff a L (step a o).1 (ledgerStep a L o) := by
  cases o with
  | push v =>
    dsimp only [step, ledgerStep]; split
    · exact .store (Nat.zero_le _) v a.cur
    · exact .refl
  | pop => exact eff_takeFirst a L
  | peek => exact eff_peek a L
  | rm => exact eff_rmFirst a L
  | len => exact .refl
  | clear =>
    dsimp only [step, ledgerStep]; split
    · exact .dropAll a.alive a.cur
    · exact .refl
  | free =>
    dsimp only [step, ledgerStep]; split
    · exact .dropAll false none
    · exact .refl
  | iterate k => exact eff_iterate a L k
  | itNew => exact eff_itNew a L
  | itNext => exact eff_itNext a L
  | itGet => exact eff_itGet a L
  | itSet v => exact eff_itSet a L v
  | itRm => exact eff_itRm a L

theorem run_inv {P : Ledger → ASt → Prop} (hP : ∀ {a a' : ASt} {L L' : Ledger}, Eff a L a' L' → P L a → P L' a') :
    ∀ (ops : List Lm.Struct.Stack.Op) {a : ASt} {L : Ledger}, P L a → P (ledger a L ops) (run a ops)
  | [], _, _, h => h
  | o :: os, a, L, h => run_inv hP os (hP (step_eff a L o) h)

end Stack

namespace ListM

theorem insPos_le (eq : Val → Val → Bool) (a : ASt) (v : Val) : insPos eq a v ≤ a.xs.length := by
  unfold insPos; split
  · exact List.findIdx_le_length
  · exact Nat.zero_le _

def ledgerStep (eq : Val → Val → Bool) (a : ASt) (L : Ledger) : Lm.Struct.ListM.Op → Ledger
  | .ins v => if a.alive ∧ v ≠ 0 then { L with entered := L.entered ++ [v] } else L
  | .itIns v =>
    (match a.cur with
     | some c => if v = 0 ∨ a.xs.length < c.pos then L else { L with entered := L.entered ++ [v] }
     | none => L)
  | .itSet v =>
    (match a.cur with
     | some c => if v = 0 then L else
        (match a.xs[c.pos]? with | some x => { L with entered := L.entered ++ [v], over := L.over ++ [x] } | none => L)
     | none => L)
  | _ => L

def ledger (eq : Val → Val → Bool) (a : ASt) (L : Ledger) : List Lm.Struct.ListM.Op → Ledger
  | [] => L
  | o :: os => ledger eq (step eq a o).1 (ledgerStep eq a L o) os

theorem step_eff (eq : Val → Val → Bool) (a : ASt) (L : Ledger) (o : Lm.Struct.ListM.Op) :
    Eff a L (step eq a o).1 (ledgerStep eq a L o) := by
  cases o with
  | ins v =>
    dsimp only [step, ledgerStep]; split
    · exact .store (insPos_le eq a v) v a.cur
    · exact .refl
  | rm v =>
    dsimp only [step, ledgerStep]; split
    · exact .refl
    · rw [List.find?_eq_getElem?_findIdx]
      cases hx : a.xs[List.findIdx (hits eq a.cmp v) a.xs]? with
      | some x => exact .erase hx a.cur
      | none => exact .refl
  | find v => dsimp only [step, ledgerStep]; split <;> (try split) <;> exact .refl
  | len => exact .refl
  | clear =>
    dsimp only [step, ledgerStep]; split
    · exact .dropAll a.alive a.cur
    · exact .refl
  | free =>
    dsimp only [step, ledgerStep]; split
    · exact .dropAll false none
    · exact .refl
  | iterate k => exact eff_iterate a L k
  | itNew => exact eff_itNew a L
  | itNext =>
    dsimp only [step, ledgerStep]; split
    · exact .refl
    · exact eff_settle ..
  | itGet =>
    dsimp only [step, ledgerStep]; split
    · exact .refl
    · split <;> exact .refl
  | itSet v =>
    dsimp only [step, ledgerStep]
    cases a.cur with
    | none => exact .refl
    | some c =>
      simp only
      by_cases hv : v = 0
      · simp only [hv, true_or, if_true]; exact .refl
      · cases hx : a.xs[c.pos]? with
        | some x =>
          simp only [hv, Nat.not_le.mpr (List.getElem?_eq_some_iff.mp hx).1, false_or, if_false]
          exact .set hx v _
        | none =>
          have hge : c.pos ≥ a.xs.length := by simpa using hx
          simp only [hv, hge, false_or, if_true, if_false]
          exact .refl
  | itRm =>
    dsimp only [step, ledgerStep]; split
    · exact .refl
    · split
      · next hx => exact .erase hx _
      · exact .refl
  | itIns v =>
    dsimp only [step, ledgerStep]
    cases a.cur with
    | none => exact .refl
    | some c =>
      by_cases hv : v = 0
      · simp only [hv, true_or, if_true]; exact .refl
      · by_cases hp : a.xs.length < c.pos
        · -- nothing is inserted behind the end
          simp only [hv, hp, or_true, if_true, if_false]
          exact .same (List.insertIdx_of_length_lt hp) rfl rfl
        · simp only [hv, hp, or_self, if_false]
          exact .store (Nat.le_of_not_lt hp) v _

theorem run_inv (eq : Val → Val → Bool) {P : Ledger → ASt → Prop}
    (hP : ∀ {a a' : ASt} {L L' : Ledger}, Eff a L a' L' → P L a → P L' a') :
    ∀ (ops : List Lm.Struct.ListM.Op) {a : ASt} {L : Ledger}, P L a → P (ledger eq a L ops) (run eq a ops)
  | [], _, _, h => h
  | o :: os, a, L, h => run_inv eq hP os (hP (step_eff eq a L o) h)

end ListM
end Lm.Spec.C12
