import Lm.Inv.C12Visit
/-!
The list iterator can also insert nodes and (after a removal) remove nodes it has not visited yet, so
"visited = a prefix of the original chain" (queue, stack) does not hold.  The invariant here splits the
chain into a *done* part `D` (in front of the position `next` will move to) and an *unvisited* part `U`.
-/
namespace Lm.Struct
open Lm.Spec.C12

/-- progress of an iteration over a list whose chain identities were `I` at `itr_new`: the chain is `D ++ U` (done,
unvisited), `vis` are the nodes visited so far -/
structure LProg (I D U vis : List NodeId) : Prop where
  nodupV : vis.Nodup
  unv : ∀ x ∈ U, x ∉ vis
  /-- every done node was visited or was inserted through the iterator -/
  done : ∀ x ∈ D, x ∈ vis ∨ x ∉ I
  /-- the visited nodes still present stand in the chain in the order in which they were visited -/
  order : D.filter (fun x => decide (x ∈ vis)) = vis.filter (fun x => decide (x ∈ D))

theorem LProg.zero (I : List NodeId) : LProg I [] I [] :=
  ⟨List.nodup_nil, fun _ _ => List.not_mem_nil, nofun, rfl⟩

theorem LProg.visit {I D U vis : List NodeId} {u : NodeId} (h : LProg I D (u :: U) vis) (hn : (D ++ u :: U).Nodup) :
    LProg I (D ++ [u]) U (vis ++ [u]) := by
  have hn' := List.nodup_append.mp hn
  have huD : u ∉ D := fun hm => hn'.2.2 u hm u (List.mem_cons_self ..) rfl
  have huU : u ∉ U := (List.nodup_cons.mp hn'.2.1).1
  have huv : u ∉ vis := h.unv u (List.mem_cons_self ..)
  refine ⟨?_, ?_, ?_, ?_⟩
  · exact List.nodup_append.mpr
      ⟨h.nodupV, List.pairwise_singleton .., fun a ha b hb e => huv (List.mem_singleton.mp hb ▸ e ▸ ha)⟩
  · intro x hx hm
    rcases List.mem_append.mp hm with hm | hm
    · exact h.unv x (List.mem_cons_of_mem _ hx) hm
    · exact huU (List.mem_singleton.mp hm ▸ hx)
  · intro x hx
    rcases List.mem_append.mp hx with hx | hx
    · exact (h.done x hx).imp (List.mem_append_left _) id
    · exact Or.inl (List.mem_append_right _ hx)
  · -- `u` is new on both sides: it is neither in `D` nor in `vis`
    have e1 : D.filter (fun x => decide (x ∈ vis ++ [u])) = D.filter (fun x => decide (x ∈ vis)) :=
      List.filter_congr fun x hx => by simp [show x ≠ u from fun e => huD (e ▸ hx)]
    have e2 : vis.filter (fun x => decide (x ∈ D ++ [u])) = vis.filter (fun x => decide (x ∈ D)) :=
      List.filter_congr fun x hx => by simp [show x ≠ u from fun e => huv (e ▸ hx)]
    rw [List.filter_append, List.filter_append, e1, e2, h.order]
    simp

theorem filter_mem_of_sublist : ∀ {l' l : List NodeId}, l'.Sublist l → l.Nodup → l.filter (fun x => decide (x ∈ l')) = l'
  | _, _, .slnil, _ => rfl
  | l', _, .cons a h, hn => by
    have ⟨ha, hn⟩ := List.nodup_cons.mp hn
    rw [List.filter_cons_of_neg (by simpa using fun hm => ha (h.subset hm)), filter_mem_of_sublist h hn]
  | _, _, .cons_cons (l₁ := l₁) a h, hn => by
    have ⟨ha, hn⟩ := List.nodup_cons.mp hn
    rw [List.filter_cons_of_pos (by simp)]
    congr 1
    exact (List.filter_congr fun x hx => by simp [show x ≠ a from fun e => ha (e ▸ hx)]).trans
      (filter_mem_of_sublist h hn)

theorem LProg.mono {I D U vis D' U' : List NodeId} (h : LProg I D U vis) (hn : D.Nodup) (hD : D'.Sublist D)
    (hU : ∀ x ∈ U', x ∈ U) : LProg I D' U' vis where
  nodupV := h.nodupV
  unv x hx := h.unv x (hU x hx)
  done x hx := h.done x (hD.subset hx)
  order := by
    calc D'.filter (fun x => decide (x ∈ vis))
        = (D.filter (fun x => decide (x ∈ vis))).filter (fun x => decide (x ∈ D')) := by
          conv => lhs; rw [← filter_mem_of_sublist hD hn]
          rw [List.filter_filter, List.filter_filter]; exact List.filter_congr fun x _ => Bool.and_comm ..
      _ = vis.filter (fun x => decide (x ∈ D')) := by
          rw [h.order, List.filter_filter]
          exact List.filter_congr fun x _ => by
            by_cases hx : x ∈ D'
            · simp [hx, hD.subset hx]
            · simp [hx]

theorem LProg.insDone {I D U vis : List NodeId} {f : NodeId} (h : LProg I D U vis) (hv : f ∉ vis) (hI : f ∉ I) (p : Nat) :
    LProg I (D.take p ++ f :: D.drop p) U vis := by
  have hm : ∀ x, x ∈ D.take p ++ f :: D.drop p ↔ x = f ∨ x ∈ D := fun x =>
    (perm_take_cons_drop D p f).mem_iff.trans List.mem_cons
  refine ⟨h.nodupV, h.unv, fun x hx => ?_, ?_⟩
  · rcases (hm x).mp hx with rfl | hx
    · exact Or.inr hI
    · exact h.done x hx
  · have e1 : (D.take p ++ f :: D.drop p).filter (fun x => decide (x ∈ vis)) = D.filter (fun x => decide (x ∈ vis)) := by
      rw [List.filter_append, List.filter_cons_of_neg (by simpa using hv), ← List.filter_append, List.take_append_drop]
    rw [e1, h.order]
    exact List.filter_congr fun x hx => by simp [hm, show x ≠ f from fun e => hv (e ▸ hx)]

theorem LProg.insUnvisited {I D U vis : List NodeId} {f : NodeId} (h : LProg I D U vis) (hv : f ∉ vis) :
    LProg I D (f :: U) vis :=
  ⟨h.nodupV, fun x hx => (List.mem_cons.mp hx).elim (fun e => e ▸ hv) (h.unv x), h.done, h.order⟩

namespace ListM

/-- index in front of which everything is done: where `next` will move to -/
def kbOf (p : Nat) (d : Int) : Nat := if 0 ≤ d then p + d.toNat + 1 else p

theorem kbOf_of_nonneg {p : Nat} {d : Int} (h : 0 ≤ d) : kbOf p d = p + d.toNat + 1 := if_pos h

theorem kbOf_of_neg {p : Nat} {d : Int} (h : d < 0) : kbOf p d = p := if_neg (Int.not_le.mpr h)

theorem le_kbOf (p : Nat) (d : Int) : p ≤ kbOf p d := by
  unfold kbOf; split
  · exact Nat.le_succ_of_le (Nat.le_add_right ..)
  · exact Nat.le_refl _

/-- an insertion moves that index on (so `next` skips the new node), unless more than one removal preceded it
(`d < -1`): then the index stays on the link -/
theorem kbOf_succ {p : Nat} {d : Int} (h : -1 ≤ d) : kbOf p (d + 1) = kbOf p d + 1 := by
  by_cases hd : 0 ≤ d
  · rw [kbOf_of_nonneg hd, kbOf_of_nonneg (Int.add_nonneg hd (by decide)), Int.toNat_add hd (by decide)]; rfl
  · obtain rfl : d = -1 := by omega
    rfl

theorem kbOf_pred {p : Nat} {d : Int} (h : 0 ≤ d) : kbOf p (d - 1) + 1 = kbOf p d := by
  have := kbOf_succ (p := p) (d := d - 1) (by omega)
  rwa [Int.sub_add_cancel, eq_comm] at this

/-- An iteration over a list whose chain identities were `I` at `itr_new` is in progress (or has
ended); `V0` is what had been visited before.  The bounds by `q.fresh` are there so that a node
inserted through the iterator is new to `I` and to `vis`. -/
def LVis (I V0 : List NodeId) (s : St) : Prop :=
  (∃ a, R .list s a) ∧ ∃ q vis, s.obj = some q ∧ (∀ x ∈ I, x < q.fresh) ∧ visited s.log = V0 ++ vis ∧
    (∀ x ∈ vis, x < q.fresh) ∧
    match s.itr with
    | none => LProg I (ids q.chain) [] vis
    | some it => ∃ p D U, linkPos q.chain it.elem = some p ∧ ids q.chain = D ++ U ∧ D.length = kbOf p it.diff ∧
        LProg I D U vis

theorem LVis.live {I V0 : List NodeId} {q : Cont} {it : Itr} {log : List Ev} {p : Nat} {vis D U : List NodeId}
    (hR : ∃ a, R .list ⟨some q, some it, log, false⟩ a) (hp : linkPos q.chain it.elem = some p)
    (hI : ∀ x ∈ I, x < q.fresh) (hvis : visited log = V0 ++ vis) (hvf : ∀ x ∈ vis, x < q.fresh)
    (hids : ids q.chain = D ++ U) (hD : D.length = kbOf p it.diff) (hprog : LProg I D U vis) :
    LVis I V0 ⟨some q, some it, log, false⟩ :=
  ⟨hR, q, vis, rfl, hI, hvis, hvf, p, D, U, hp, hids, hD, hprog⟩

@[elab_as_elim]
theorem LVis.cases {I V0 : List NodeId} {motive : St → Prop} {s : St} (h : LVis I V0 s)
    (idle : ∀ q log, LVis I V0 ⟨some q, none, log, false⟩ → motive ⟨some q, none, log, false⟩)
    (live : ∀ q it log p vis D U, (∃ a, R .list ⟨some q, some it, log, false⟩ a) → q.WF →
      linkPos q.chain it.elem = some p → (∀ x ∈ I, x < q.fresh) → visited log = V0 ++ vis → (∀ x ∈ vis, x < q.fresh) →
      ids q.chain = D ++ U → D.length = kbOf p it.diff → LProg I D U vis → motive ⟨some q, some it, log, false⟩) :
    motive s := by
  obtain ⟨⟨a, hR⟩, q, vis, ho, hI, hvis, hvf, hitr⟩ := h
  revert ho hvis hitr
  refine hR.cases (fun _ _ _ ho => nomatch ho) ?_ ?_
  · intro q' log wf tl ho hvis hn; cases ho
    exact idle _ _ ⟨⟨_, R.idle wf tl⟩, _, vis, rfl, hI, hvis, hvf, hn⟩
  · intro q' it log p _ _ wf tl hp hr hd hs ho hvis ⟨p', D, U, hp', hids, hD, hprog⟩
    cases ho; cases hp.symm.trans hp'
    exact live _ _ _ _ _ _ _ ⟨_, R.live wf tl hp hr hd hs⟩ wf hp hI hvis hvf hids hD hprog

theorem lvis_settleAt {I V0 : List NodeId} {q : Cont} {log : List Ev} {it : Itr} {vis D U : List NodeId}
    (hR : ∃ a, R .list (settleAt q log it D.length) a) (wf : q.WF) (hI : ∀ x ∈ I, x < q.fresh)
    (hvis : visited log = V0 ++ vis) (hvf : ∀ x ∈ vis, x < q.fresh) (hids : ids q.chain = D ++ U)
    (hprog : LProg I D U vis) (hl : linkPos q.chain it.elem = some D.length) (hd : it.diff = 0) :
    LVis I V0 (settleAt q log it D.length) := by
  have hu : U[0]? = (q.chain[D.length]?).map (·.id) := by
    rw [← ids_getElem?, hids, List.getElem?_append_right (Nat.le_refl _), Nat.sub_self]
  unfold settleAt at hR ⊢
  cases hnx : q.chain[D.length]? with
  | none =>
    rw [hnx] at hu hR
    cases U with
    | cons => simp at hu
    | nil => exact ⟨hR, q, vis, rfl, hI, hvis, hvf, (List.append_nil D ▸ hids) ▸ hprog⟩
  | some nd =>
    rw [hnx] at hu hR
    cases U with
    | nil => simp at hu
    | cons u U =>
      obtain rfl : u = nd.id := by simpa using hu
      refine .live hR hl hI ?_ ?_ (vis := vis ++ [nd.id]) (D := D ++ [nd.id]) (U := U) ?_ ?_
        (hprog.visit (hids ▸ wf.nodup))
      · rw [visited_append, hvis]; simp [visited]
      · intro x hx
        rcases List.mem_append.mp hx with hx | hx
        · exact hvf x hx
        · exact List.mem_singleton.mp hx ▸ wf.fresh nd (List.mem_of_getElem? hnx)
      · rw [hids, List.append_assoc]; rfl
      · rw [hd, List.length_append]; rfl

theorem lvis_itrNew {s : St} {a : ASt} {q : Cont} (h : R .list s a) (ho : s.obj = some q) :
    LVis (ids q.chain) (visited s.log) (noteCur (itrNew s)).1 := by
  have hR := (itrNew_R h).1
  revert ho hR
  refine h.objCases (fun _ _ _ ho => nomatch ho) fun q' itr log cur wf tl _ ho hR => ?_
  cases ho
  rw [noteCur_itrNew wf.len] at hR ⊢
  exact lvis_settleAt (D := []) (vis := []) ⟨_, hR⟩ wf (fun _ => wf.ids_lt) (by simp) nofun rfl (LProg.zero _) rfl rfl

theorem lvis_same {I V0 : List NodeId} {s s' : St} {a' : ASt} (h : LVis I V0 s) (hR : R .list s' a')
    (ho : s'.obj = s.obj) (hi : s'.itr = s.itr) (hl : visited s'.log = visited s.log) : LVis I V0 s' := by
  obtain ⟨_, q, vis, ho', hI, hvis, hvf, hitr⟩ := h
  exact ⟨⟨a', hR⟩, q, vis, by rw [ho, ho'], hI, by rw [hl, hvis], hvf, by rw [hi]; exact hitr⟩

theorem lvis_itrNext {I V0 : List NodeId} {s : St} (h : LVis I V0 s) :
    LVis I V0 (noteCur (itrNext s)).1 := by
  refine h.cases (fun _ _ h => h) ?_
  intro q it log p vis D U ⟨a, hR⟩ wf hp hI hvis hvf hids hD hprog
  have hR' := (itrNext_R (eq := fun _ _ => false) hR).1
  obtain ⟨l, p', hp', hl, e⟩ := noteCur_itrNext wf.nodup hp log
  -- `next` lands exactly on the first node that is not done
  obtain rfl : p' = D.length := by
    have hlen : D.length + U.length = q.chain.length := by rw [← ids_length, hids, List.length_append]
    rw [hp', hD]
    by_cases hd : 0 ≤ it.diff
    · rw [hD, kbOf_of_nonneg hd] at hlen
      rw [if_pos ⟨by omega, hd⟩, kbOf_of_nonneg hd]; omega
    · rw [if_neg fun h => hd h.2, kbOf_of_neg (Int.not_le.mp hd)]
  rw [e] at hR' ⊢
  exact lvis_settleAt (it := { it with elem := l, diff := 0 }) ⟨_, hR'⟩ wf hI hvis hvf hids hprog hl rfl

theorem lvis_itrRemove {I V0 : List NodeId} {s : St} (h : LVis I V0 s) :
    LVis I V0 (itrRemove s).1 := by
  refine h.cases (fun _ _ h => h) ?_
  intro q it log p vis D U ⟨a, hR⟩ wf hp hI hvis hvf hids hD hprog
  have hR' := (itrRemove_R (eq := fun _ _ => false) hR).1
  rw [itrRemove_live hp] at hR' ⊢
  cases hsome : q.chain[p]? with
  | none => exact .live ⟨_, hsome ▸ hR'⟩ hp hI hvis hvf hids hD hprog
  | some tmp =>
    simp only [hsome] at hR'
    have hnd : D.Nodup := (List.nodup_append.mp (hids ▸ wf.nodup)).1
    have hids' : ids (eraseAt q.chain p) = (D ++ U).eraseIdx p := by rw [ids_eraseAt, hids]
    by_cases hd : 0 ≤ it.diff
    · -- the node at the link is a done node
      have hk := kbOf_pred (p := p) hd
      have hpD : p < D.length := by rw [hD, kbOf_of_nonneg hd]; omega
      refine .live ⟨_, hR'⟩ (linkPos_eraseAt hp) hI ((visited_callDtor ..).trans hvis) hvf (D := D.eraseIdx p) (U := U)
        (by rw [hids', List.eraseIdx_append_of_lt_length hpD]) ?_ (hprog.mono hnd (List.eraseIdx_sublist ..) fun _ h => h)
      show _ = kbOf p (it.diff - 1)
      rw [List.length_eraseIdx_of_lt hpD]; omega
    · -- the node at the link is the first unvisited node
      have hd := Int.not_le.mp hd
      obtain rfl : p = D.length := by rw [hD, kbOf_of_neg hd]
      exact .live ⟨_, hR'⟩ (linkPos_eraseAt hp) hI ((visited_callDtor ..).trans hvis) hvf (D := D) (U := U.eraseIdx 0)
        (by rw [hids', List.eraseIdx_append_of_length_le (Nat.le_refl _), Nat.sub_self])
        (kbOf_of_neg (d := it.diff - 1) (by omega)).symm
        (hprog.mono hnd (List.Sublist.refl _) fun _ h => (List.eraseIdx_sublist ..).subset h)

theorem lvis_itrInsert {I V0 : List NodeId} {s : St} (v : Val) (h : LVis I V0 s) :
    LVis I V0 (itrInsert s v).1 := by
  refine h.cases (fun _ _ h => h) ?_
  intro q it log p vis D U ⟨a, hR⟩ wf hp hI hvis hvf hids hD hprog
  have hR' := (itrInsert_R (eq := fun _ _ => false) v hR).1
  rw [itrInsert_live hp] at hR' ⊢
  by_cases hv : v = 0 <;> simp only [hv, if_true, if_false] at hR' ⊢
  · exact .live ⟨_, hR'⟩ hp hI hvis hvf hids hD hprog
  · have hfv : q.fresh ∉ vis := fun hm => Nat.lt_irrefl _ (hvf _ hm)
    have hfI : q.fresh ∉ I := fun hm => Nat.lt_irrefl _ (hI _ hm)
    have hI' : ∀ x ∈ I, x < (insertNode q p v).fresh := fun x hx => Nat.lt_succ_of_lt (hI x hx)
    have hvf' : ∀ x ∈ vis, x < (insertNode q p v).fresh := fun x hx => Nat.lt_succ_of_lt (hvf x hx)
    have hidsn : ids (insertNode q p v).chain = (D ++ U).take p ++ q.fresh :: (D ++ U).drop p := hids ▸ ids_insertAt ..
    by_cases hd : -1 ≤ it.diff
    · -- the new node is a done node: `next` will not stop on it
      have hpD : p ≤ D.length := hD ▸ le_kbOf p it.diff
      refine .live ⟨_, hR'⟩ (linkPos_insertAt _ hp) hI' hvis hvf' (D := D.take p ++ q.fresh :: D.drop p) (U := U) ?_ ?_
        (hprog.insDone hfv hfI p)
      · rw [hidsn, List.take_append_of_le_length hpD, List.drop_append_of_le_length hpD, List.append_assoc]; rfl
      · show _ = kbOf p (it.diff + 1)
        rw [kbOf_succ hd, ← hD, List.length_append, List.length_cons, List.length_take, List.length_drop]; omega
    · -- the new node is the first unvisited node
      have hd : it.diff + 1 < 0 := by omega
      obtain rfl : p = D.length := by rw [hD, kbOf_of_neg (by omega)]
      exact .live ⟨_, hR'⟩ (linkPos_insertAt _ hp) hI' hvis hvf' (D := D) (U := q.fresh :: U)
        (by rw [hidsn, List.take_left' rfl, List.drop_left' rfl]) (kbOf_of_neg hd).symm (hprog.insUnvisited hfv)

theorem lvis_itrSet {I V0 : List NodeId} {s : St} (v : Val) (h : LVis I V0 s) :
    LVis I V0 (itrSet s v).1 := by
  refine h.cases (fun _ _ h => h) ?_
  intro q it log p vis D U ⟨a, hR⟩ wf hp hI hvis hvf hids hD hprog
  have hR' := (itrSet_R (eq := fun _ _ => false) v hR).1
  rw [itrSet_live hp] at hR' ⊢
  by_cases hg : v = 0 ∨ p ≥ q.chain.length <;> simp only [hg, if_true, if_false] at hR' ⊢
  · exact .live ⟨_, hR'⟩ hp hI hvis hvf hids hD hprog
  · exact .live ⟨_, hR'⟩ ((linkPos_setAt ..).trans hp) hI hvis hvf ((ids_setAt ..).trans hids) hD hprog

theorem itrGet_state {s : St} {a : ASt} (h : R .list s a) : (itrGet s).1 = s :=
  h.cases (fun _ _ _ => rfl) (fun _ _ _ _ => rfl) fun _ _ _ _ _ _ _ _ hp _ _ _ => by rw [itrGet_live hp]

theorem find_state (eq : Val → Val → Bool) {s : St} {a : ASt} (v : Val) (h : R .list s a) : (find eq s v).1 = s := by
  by_cases hv : v = 0
  · rw [hv, find_null]
  · exact h.objCases (fun _ _ _ => rfl) fun _ _ _ _ wf _ _ => by rw [find_some eq wf hv]

/-- the calls of an iteration: those on the iterator and those that leave the container as it is -/
def Op.inIteration : Op → Bool
  | .itNext | .itGet | .itSet _ | .itRm | .itIns _ | .find _ | .len | .iterate _ => true
  | _ => false

theorem lvis_step (eq : Val → Val → Bool) {I V0 : List NodeId} (s : St) (o : Op) (h : LVis I V0 s)
    (ho : o.inIteration = true) : LVis I V0 (step eq s o).1 := by
  obtain ⟨a, hR⟩ := h.1
  cases o with
  | itNext => exact lvis_itrNext h
  | itGet => exact (itrGet_state hR).symm ▸ h
  | itSet v => exact lvis_itrSet v h
  | itRm => exact lvis_itrRemove h
  | itIns v => exact lvis_itrInsert v h
  | find v => exact (find_state eq v hR).symm ▸ h
  | len => exact h
  | iterate k =>
    have := iterate_state s k
    exact lvis_same h (iterate_R k hR).1 this.1 this.2.1 this.2.2
  | _ => nomatch ho

/-- the invariant in the form `C12_list_iterator_visits_each_once` states -/
theorem LVis.result {I V0 : List NodeId} {s : St} (h : LVis I V0 s) :
    ∃ vis q, visited s.log = V0 ++ vis ∧ s.obj = some q ∧ vis.Nodup ∧
      (s.itr = none →
        (∀ x ∈ ids q.chain, x ∈ I → x ∈ vis) ∧
        (ids q.chain).filter (fun x => decide (x ∈ vis)) = vis.filter (fun x => decide (x ∈ ids q.chain))) := by
  obtain ⟨_, q, vis, ho, _, hvis, _, hitr⟩ := h
  cases hi : s.itr with
  | none =>
    rw [hi] at hitr
    exact ⟨vis, q, hvis, ho, hitr.nodupV,
      fun _ => ⟨fun x hx hxI => (hitr.done x hx).resolve_right fun h => h hxI, hitr.order⟩⟩
  | some it =>
    rw [hi] at hitr
    obtain ⟨p, D, U, _, _, _, hprog⟩ := hitr
    exact ⟨vis, q, hvis, ho, hprog.nodupV, fun h => nomatch h⟩

end ListM
end Lm.Struct
