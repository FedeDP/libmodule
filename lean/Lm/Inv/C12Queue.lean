import Lm.Inv.C12Refine
/-! # `queue.c` refines the FIFO array machine

The head-removing functions (`dequeue`, `remove`, the loop of `clear`) are proved for every kind `k`: a stack is a
queue whose `tail` stays NULL (`C12Stack`). -/
namespace Lm.Struct.Queue
open Lm.Struct Lm.Spec.C12

theorem enqueue_chain {q : Cont} (wf : q.WF) (tl : tailOK .queue q) (nd : Node) :
    enqChain q nd = q.chain ++ [nd] := by
  unfold enqChain
  simp only [tailOK] at tl
  cases hl : q.chain.getLast? with
  | none =>
    have : q.chain = [] := List.getLast?_eq_none_iff.mp hl
    simp [tl, lastId, this]
  | some l =>
    have hne : q.chain ≠ [] := by intro e; simp [e] at hl
    have hlen : 0 < q.chain.length := List.length_pos_iff.mpr hne
    have hg : q.chain[q.chain.length - 1]? = some l := by rw [← List.getLast?_eq_getElem?]; exact hl
    have hp := posOf_of_getElem wf.nodup hg
    have : q.chain.length - 1 + 1 = q.chain.length := by omega
    simp [tl, lastId, hl, hp, this, hne]

theorem enqueue_null (s : St) : enqueue s 0 = (s, .int EINVAL) := by
  unfold enqueue; split <;> simp

theorem enqueue_some {q : Cont} (wf : q.WF) (tl : tailOK .queue q) {v : Val} (hv : v ≠ 0) (itr : Option Itr)
    (log : List Ev) (f : Bool) :
    enqueue ⟨some q, itr, log, f⟩ v =
      (⟨some { q with chain := q.chain ++ [⟨q.fresh, v⟩], tail := some q.fresh, len := q.len + 1, fresh := q.fresh + 1 },
        itr, log, f⟩, .int 0) := by
  simp only [enqueue, hv, if_false, enqueue_chain wf tl]

theorem enqueue_R {s : St} {a : ASt} (v : Val) (h : R .queue s a) :
    R .queue (enqueue s v).1 (Spec.C12.Queue.step a (.enq v)).1 ∧ (enqueue s v).2 = (Spec.C12.Queue.step a (.enq v)).2 := by
  by_cases hv : v = 0
  · subst hv; rw [enqueue_null]
    simp only [Spec.C12.Queue.step, ne_eq, not_true_eq_false, and_false, if_false]; exact ⟨h, trivial⟩
  have ok : ∀ {q : Cont}, q.WF →
      Cont.WF { q with chain := q.chain ++ [⟨q.fresh, v⟩], tail := some q.fresh, len := q.len + 1, fresh := q.fresh + 1 } ∧
      tailOK .queue { q with chain := q.chain ++ [⟨q.fresh, v⟩], tail := some q.fresh, len := q.len + 1, fresh := q.fresh + 1 } :=
    fun wf => ⟨insertAt_length .. ▸ (wf.insert (Nat.le_refl _) hv).withTail _, (lastId_concat _ ⟨_, v⟩).symm⟩
  refine h.cases (fun _ _ _ => ⟨R.dead, by simp [enqueue, Spec.C12.Queue.step]⟩) ?_ ?_
  · intro q log wf tl
    rw [enqueue_some wf tl hv]
    simp only [Spec.C12.Queue.step, absOf, hv, ne_eq, not_false_eq_true, and_self, if_true]
    exact ⟨by simpa [absOf, vals] using R.idle (log := log) (ok wf).1 (ok wf).2, trivial⟩
  · -- a live iterator keeps its place: the link it holds is not touched
    intro q it log p r d wf tl hp hr hd hs
    rw [enqueue_some wf tl hv]
    simp only [Spec.C12.Queue.step, absOf, hv, ne_eq, not_false_eq_true, and_self, if_true]
    have := R.live (log := log) (ok wf).1 (ok wf).2 (linkPos_append _ hp) hr hd
      (OnElem.mono hs (by simp))
    exact ⟨by simpa [absOf, vals] using this, trivial⟩

theorem head_erase_ok {k : Kind} {q : Cont} {hd : Node} {rest : Chain} (wf : q.WF) (tl : tailOK k q) (hc : q.chain = hd :: rest) :
    Cont.WF { q with chain := rest, tail := if q.tail = some hd.id then none else q.tail, len := q.len - 1 } ∧
    tailOK k { q with chain := rest, tail := if q.tail = some hd.id then none else q.tail, len := q.len - 1 } := by
  have h0 : q.chain[0]? = some hd := by simp [hc]
  have he : eraseAt q.chain 0 = rest := by simp [eraseAt, hc]
  have h1 := wf.erase (p := 0) (by simp [hc]) (if q.tail = some hd.id then none else q.tail)
  have h2 := tailOK_erase (l := .head) wf tl h0 rfl
  rw [he] at h1 h2
  exact ⟨h1, h2⟩

theorem dequeue_empty {s : St} (h : ¬ cLen s.obj > 0) : dequeue s = (s, .ptr 0) := by
  simp [dequeue, h]

theorem dequeue_cons {s : St} {q : Cont} {hd : Node} {rest : Chain} (ho : s.obj = some q) (wf : q.WF)
    (hc : q.chain = hd :: rest) :
    dequeue s = ({ s with obj := some { q with chain := rest, tail := if q.tail = some hd.id then none else q.tail,
                                               len := q.len - 1 } }, .ptr hd.val) := by
  have h2 : cLen (some q) > 0 := by simp [cLen, wf.len, hc]
  simp only [dequeue, ho, h2, if_true, hc]

theorem dequeue_R {k : Kind} {s : St} {a : ASt} (h : R k s a) (hi : s.itr = none) :
    R k (dequeue s).1 (takeFirst a).1 ∧ (dequeue s).2 = (takeFirst a).2 := by
  refine h.noItrCases hi (fun _ _ _ => ⟨R.dead, rfl⟩) fun q log wf tl => ?_
  cases hc : q.chain with
  | nil =>
    rw [dequeue_empty (by simp [cLen, wf.len, hc])]
    simpa [takeFirst, absOf, vals, hc] using R.idle (log := log) wf tl
  | cons hd rest =>
    have := head_erase_ok wf tl hc
    rw [dequeue_cons rfl wf hc]
    simpa [takeFirst, absOf, vals, hc] using R.idle (log := log) this.1 this.2

theorem remove_R {k : Kind} {s : St} {a : ASt} (h : R k s a) (hi : s.itr = none) :
    R k (remove s).1 (rmFirst a).1 ∧ (remove s).2 = (rmFirst a).2 ∧ (remove s).1.itr = none := by
  refine h.noItrCases hi (fun _ _ _ => ⟨R.dead, rfl, rfl⟩) fun q log wf tl => ?_
  unfold remove
  cases hc : q.chain with
  | nil =>
    rw [dequeue_empty (by simp [cLen, wf.len, hc])]
    simpa [rmFirst, absOf, vals, hc] using R.idle (log := log) wf tl
  | cons hd rest =>
    have := head_erase_ok wf tl hc
    have hv : hd.val ≠ 0 := wf.nonnull hd (by simp [hc])
    rw [dequeue_cons rfl wf hc]
    simpa [rmFirst, absOf, vals, hc, hv, absEv_callDtor] using
      R.idle (log := callDtor q.dtor log hd.val) this.1 this.2

theorem clearLoop_R {k : Kind} : ∀ (n : Nat) {s : St} {a : ASt}, R k s a → s.itr = none → n = a.xs.length →
    R k (clearLoop n s) { a with xs := [], out := a.out ++ drop a.dtor a.xs } ∧ (clearLoop n s).itr = none
  | 0, s, a, h, hi, hn => by
    obtain ⟨_, _, _, xs, _, _⟩ := a
    cases (List.eq_nil_of_length_eq_zero hn.symm : xs = [])
    exact ⟨by simpa [clearLoop, drop_nil] using h, hi⟩
  | n + 1, s, a, h, hi, hn => by
    have hx : a.xs ≠ [] := by intro e; simp [e] at hn
    have hpos : cLen s.obj > 0 := (R_cLen_pos h).mpr hx
    simp only [clearLoop, h.1, hpos, if_true, Bool.false_eq_true, if_false]
    obtain ⟨h1, _, h3⟩ := remove_R h hi
    cases hxs : a.xs with
    | nil => exact absurd hxs hx
    | cons x r =>
      have hr : (rmFirst a).1 = { a with xs := r, out := a.out ++ drop a.dtor [x] } := by simp [rmFirst, hxs]
      rw [hr] at h1
      have := clearLoop_R n h1 h3 (by simp [hxs] at hn; simpa using hn)
      simpa [drop_cons a.dtor x r, List.append_assoc] using this

theorem clear_R {s : St} {a : ASt} (h : R .queue s a) (hi : s.itr = none) :
    R .queue (clear s).1 (Spec.C12.Queue.step a .clear).1 ∧ (clear s).2 = (Spec.C12.Queue.step a .clear).2 ∧
    (clear s).1.itr = none := by
  by_cases hx : a.xs = []
  · have hn : ¬ cLen s.obj > 0 := by rw [R_cLen_pos h]; simp [hx]
    simp [clear, hn, Spec.C12.Queue.step, hx, hi]; exact h
  · have hpos : cLen s.obj > 0 := (R_cLen_pos h).mpr hx
    cases ho : s.obj with
    | none => simp [ho, cLen, EINVAL] at hpos
    | some q =>
      have := clearLoop_R q.len h hi (R_len_some h ho)
      rw [ho] at hpos
      simp only [clear, hpos, if_true, ho, Spec.C12.Queue.step, hx, if_false]
      exact ⟨this.1, trivial, this.2⟩

theorem free_R {s : St} {a : ASt} (h : R .queue s a) :
    R .queue (free s).1 (Spec.C12.Queue.step a .free).1 ∧ (free s).2 = (Spec.C12.Queue.step a .free).2 := by
  have hc := clear_R h.noItr rfl
  simp only [free, Spec.C12.Queue.step] at hc ⊢
  by_cases hx : a.xs = []
  · -- nothing to clear: `m_queue_clear` fails and its result is ignored
    simp only [hx, if_true, drop_nil, List.append_nil] at hc ⊢
    exact ⟨hc.1.freed hc.2.2, trivial⟩
  · simp only [hx, if_false] at hc
    exact ⟨hc.1.freed hc.2.2, trivial⟩

theorem step_R {s : St} {a : ASt} (o : Op) (h : R .queue s a) (hok : okOp s o = true) :
    R .queue (step s o).1 (Spec.C12.Queue.step a o).1 ∧ (step s o).2 = (Spec.C12.Queue.step a o).2 := by
  cases o with
  | enq v => exact enqueue_R v h
  | deq => exact dequeue_R h (itr_none_of_ok hok rfl)
  | peek => exact peek_R h
  | rm => have := remove_R h (itr_none_of_ok hok rfl); exact ⟨this.1, this.2.1⟩
  | len => exact ⟨h, congrArg Ret.int (R_len h)⟩
  | clear => have := clear_R h (itr_none_of_ok hok rfl); exact ⟨this.1, this.2.1⟩
  | free => exact free_R h
  | iterate k => exact iterate_R k h
  | itNew => exact itrNew_R h
  | itNext => exact itrNext_R (by decide) h
  | itGet => exact itrGet_R (by decide) h
  | itSet v => exact itrSet_R (by decide) v h
  | itRm => exact itrRemove_R (by decide) h

theorem run_R : ∀ (ops : List Op) {s : St} {a : ASt}, R .queue s a → okRun s ops = true →
    R .queue (run s ops) (Spec.C12.Queue.run a ops) ∧ trace s ops = Spec.C12.Queue.trace a ops
  | [], s, a, h, _ => ⟨h, rfl⟩
  | o :: os, s, a, h, hok => by
    simp only [okRun, Bool.and_eq_true] at hok
    have h1 := step_R o h hok.1
    have h2 := run_R os h1.1 hok.2
    simp only [run, List.foldl_cons, Spec.C12.Queue.run, trace, Spec.C12.Queue.trace, h1.2] at h2 ⊢
    exact ⟨h2.1, by rw [h2.2]⟩

theorem init_R (dtor : Bool) : R .queue (new dtor) (Spec.C12.Queue.init dtor) :=
  R.idle (q := { dtor := dtor }) (.nil rfl rfl) rfl

/-- the calls of a producer/consumer history; `C12_queue_fifo_order` has this predicate written out -/
def Op.plain : Op → Bool
  | .enq _ | .deq | .peek | .len => true
  | _ => false

theorem fifo_step {a : ASt} {L : Ledger} (o : Op) (hp : o.plain = true) (hc : a.cur = none)
    (hL : L.entered = L.handed ++ a.xs) :
    (Spec.C12.Queue.step a o).1.cur = none ∧
    (Spec.C12.Queue.ledgerStep a L o).entered =
      (Spec.C12.Queue.ledgerStep a L o).handed ++ (Spec.C12.Queue.step a o).1.xs := by
  cases o with
  | enq v => simp only [Spec.C12.Queue.step, Spec.C12.Queue.ledgerStep]; split <;> simp [hc, hL]
  | deq =>
    simp only [Spec.C12.Queue.step, Spec.C12.Queue.ledgerStep, takeFirst]
    cases hx : a.xs with
    | nil => exact ⟨hc, by rw [hL, hx]⟩
    | cons x r => exact ⟨hc, by rw [hL, hx, List.append_assoc]; rfl⟩
  | peek => simp only [Spec.C12.Queue.step, Spec.C12.Queue.ledgerStep, Spec.C12.peek]; split <;> exact ⟨hc, hL⟩
  | len => exact ⟨hc, hL⟩
  | _ => nomatch hp

/-- no `okRun` hypothesis: no iterator appears, so every call is permitted -/
theorem fifo_run : ∀ (ops : List Op) {s : St} {a : ASt} {L : Ledger}, ops.all Op.plain = true → R .queue s a →
    a.cur = none → L.entered = L.handed ++ a.xs →
    (Spec.C12.Queue.ledger a L ops).entered = (Spec.C12.Queue.ledger a L ops).handed ++ content (run s ops)
  | [], s, a, L, _, h, _, hL => (content_of_R h).1 ▸ hL
  | o :: os, s, a, L, hp, h, hc, hL => by
    simp only [List.all_cons, Bool.and_eq_true] at hp
    have h1 := (step_R o h (by simp [okOp, R_itr_none h hc])).1
    have h2 := fifo_step o hp.1 hc hL
    exact fifo_run os hp.2 h1 h2.1 h2.2

end Lm.Struct.Queue
