import Lm.Inv.C12Queue
/-! # `stack.c` refines the LIFO array machine

`pop`, `remove` and the loop of `clear` are `dequeue`, `remove` and the loop of `clear` of `queue.c` on a container
whose `tail` is NULL, which a stack's always is. -/
namespace Lm.Struct.Stack
open Lm.Struct Lm.Spec.C12

theorem push_R {s : St} {a : ASt} (v : Val) (h : R .stack s a) (hi : s.itr = none) :
    R .stack (push s v).1 (Spec.C12.Stack.step a (.push v)).1 ∧ (push s v).2 = (Spec.C12.Stack.step a (.push v)).2 := by
  refine h.noItrCases hi (fun _ _ _ => ⟨R.dead, by simp [push, Spec.C12.Stack.step]⟩) fun q log wf tl => ?_
  by_cases hv : v = 0
  · simpa [push, Spec.C12.Stack.step, hv] using R.idle (log := log) wf tl
  · have := wf.insert (p := 0) (Nat.zero_le _) hv
    simpa [push, Spec.C12.Stack.step, hv, absOf, vals, insertAt] using R.idle (k := .stack) (log := log) this tl

theorem noTail {s : St} {a : ASt} (h : R .stack s a) : ∀ q, s.obj = some q → q.tail = none :=
  h.objCases (fun _ _ _ _ ho => nomatch ho) fun _ _ _ _ _ tl _ _ ho => Option.some.inj ho ▸ tl

theorem pop_eq_dequeue {s : St} (ht : ∀ q, s.obj = some q → q.tail = none) : pop s = Queue.dequeue s := by
  obtain ⟨obj, itr, log, f⟩ := s
  cases obj with
  | none => rfl
  | some q =>
    have : q.tail = none := ht q rfl
    cases hc : q.chain <;> simp [pop, Queue.dequeue, hc, this]

theorem remove_eq_queue_remove {s : St} (ht : ∀ q, s.obj = some q → q.tail = none) : remove s = Queue.remove s := by
  unfold remove Queue.remove; rw [pop_eq_dequeue ht]; rfl

theorem clearLoop_eq_queue : ∀ (n : Nat) {s : St} {a : ASt}, R .stack s a → s.itr = none → clearLoop n s = Queue.clearLoop n s
  | 0, _, _, _, _ => rfl
  | n + 1, s, a, h, hi => by
    have := Queue.remove_R h hi
    simp only [clearLoop, Queue.clearLoop, remove_eq_queue_remove (noTail h), clearLoop_eq_queue n this.1 this.2.2]

theorem pop_R {s : St} {a : ASt} (h : R .stack s a) (hi : s.itr = none) :
    R .stack (pop s).1 (takeFirst a).1 ∧ (pop s).2 = (takeFirst a).2 :=
  pop_eq_dequeue (noTail h) ▸ Queue.dequeue_R h hi

theorem remove_R {s : St} {a : ASt} (h : R .stack s a) (hi : s.itr = none) :
    R .stack (remove s).1 (rmFirst a).1 ∧ (remove s).2 = (rmFirst a).2 ∧ (remove s).1.itr = none :=
  remove_eq_queue_remove (noTail h) ▸ Queue.remove_R h hi

theorem clear_R {s : St} {a : ASt} (h : R .stack s a) (hi : s.itr = none) :
    R .stack (clear s).1 (Spec.C12.Stack.step a .clear).1 ∧ (clear s).2 = (Spec.C12.Stack.step a .clear).2 ∧
    (clear s).1.itr = none := by
  have ha := R_alive h
  cases ho : s.obj with
  | none =>
    simp only [ho, Option.isSome_none] at ha
    simp only [clear, ho, Spec.C12.Stack.step, ha, Bool.false_eq_true, if_false]
    exact ⟨h, trivial, hi⟩
  | some q =>
    simp only [ho, Option.isSome_some] at ha
    have := Queue.clearLoop_R q.len h hi (R_len_some h ho)
    simp only [clear, ho, Spec.C12.Stack.step, if_pos ha, clearLoop_eq_queue q.len h hi]
    exact ⟨this.1, trivial, this.2⟩

theorem free_R {s : St} {a : ASt} (h : R .stack s a) :
    R .stack (free s).1 (Spec.C12.Stack.step a .free).1 ∧ (free s).2 = (Spec.C12.Stack.step a .free).2 := by
  refine h.objCases (fun _ _ _ => ⟨by simpa [free, clear, Spec.C12.Stack.step, EINVAL] using R.dead, by simp [free, clear, Spec.C12.Stack.step, EINVAL]⟩) ?_
  intro q itr log cur wf tl h
  have hc := clear_R h.noItr rfl
  simp only [free, clear, Spec.C12.Stack.step, absOf, if_true] at hc ⊢
  exact ⟨hc.1.freed hc.2.2, trivial⟩

theorem step_R {s : St} {a : ASt} (o : Op) (h : R .stack s a) (hok : okOp s o = true) :
    R .stack (step s o).1 (Spec.C12.Stack.step a o).1 ∧ (step s o).2 = (Spec.C12.Stack.step a o).2 := by
  cases o with
  | push v => exact push_R v h (itr_none_of_ok hok rfl)
  | pop => exact pop_R h (itr_none_of_ok hok rfl)
  | peek => exact peek_R h
  | rm => have := remove_R h (itr_none_of_ok hok rfl); exact ⟨this.1, this.2.1⟩
  | len => exact ⟨h, congrArg Ret.int (R_len h)⟩
  | clear => have := clear_R h (itr_none_of_ok hok rfl); exact ⟨this.1, this.2.1⟩
  | free => exact free_R h
  | iterate k => exact iterate_R k h
  | itNew => exact itrNew_R h
  | itNext => exact itrNext_R (by decide) h
  | itGet => exact itrGet_R (by decide) h
  | itSet v => exact itrSet_R (by decide) v h
  | itRm => exact itrRemove_R (by decide) h

theorem run_R : ∀ (ops : List Op) {s : St} {a : ASt}, R .stack s a → okRun s ops = true →
    R .stack (run s ops) (Spec.C12.Stack.run a ops) ∧ trace s ops = Spec.C12.Stack.trace a ops
  | [], s, a, h, _ => ⟨h, rfl⟩
  | o :: os, s, a, h, hok => by
    simp only [okRun, Bool.and_eq_true] at hok
    have h1 := step_R o h hok.1
    have h2 := run_R os h1.1 hok.2
    simp only [run, List.foldl_cons, Spec.C12.Stack.run, trace, Spec.C12.Stack.trace, h1.2] at h2 ⊢
    exact ⟨h2.1, by rw [h2.2]⟩

theorem init_R (dtor : Bool) : R .stack (new dtor) (Spec.C12.Stack.init dtor) :=
  R.idle (q := { dtor := dtor }) (.nil rfl rfl) rfl

end Lm.Struct.Stack
