import Lm.Inv.MapIter
/-!
# Whole histories (property C05): every call keeps the map well-formed and the ledger of key blocks

For a map that owns its keys (`KEY_DUP`, which forces `KEY_AUTOFREE`, or `KEY_AUTOFREE` alone), at
every point of every history: key blocks allocated = key blocks released + one per live entry.
-/
namespace Lm.Struct.Map
variable {κ : Type} [DecidableEq κ]

def live (m : Map κ) (k : κ) : Int := if k ∈ keysOf m.cells then 1 else 0

def kdelta (k : κ) (evs : List (Ev κ)) : Int := (evs.count (Ev.kalloc k) : Int) - (evs.count (Ev.kfree k) : Int)

theorem kdelta_nil (k : κ) : kdelta k ([] : List (Ev κ)) = 0 := by simp [kdelta]

theorem kdelta_append (k : κ) (a b : List (Ev κ)) : kdelta k (a ++ b) = kdelta k a + kdelta k b := by
  simp only [kdelta, List.count_append]; omega

theorem kdelta_cons (k : κ) (e : Ev κ) (r : List (Ev κ)) :
    kdelta k (e :: r) = kdelta k r + (match e with | .kalloc k' => if k' = k then 1 else 0
                                                   | .kfree k' => if k' = k then -1 else 0 | .dtor _ => 0) := by
  cases e with
  | dtor v => simp [kdelta]
  | kalloc k' =>
    by_cases h : k' = k
    · subst h; simp [kdelta]; omega
    · simp [kdelta, h]
  | kfree k' =>
    by_cases h : k' = k
    · subst h; simp [kdelta]; omega
    · simp [kdelta, h]

section
variable {m m' : Map κ} {k : κ}

theorem live_eq (h : (∃ v, Has m'.cells (k, v)) ↔ ∃ v, Has m.cells (k, v)) : live m' k = live m k := by
  have : k ∈ keysOf m'.cells ↔ k ∈ keysOf m.cells := by rw [mem_keysOf, mem_keysOf]; exact h
  unfold live; simp only [this]

theorem live_of_has {v : Nat} (h : Has m.cells (k, v)) : live m k = 1 := by
  unfold live; rw [if_pos ((mem_keysOf _ _).mpr ⟨v, h⟩)]

theorem live_of_absent (h : ∀ v, ¬ Has m.cells (k, v)) : live m k = 0 := by
  unfold live; rw [if_neg]; rw [mem_keysOf]; rintro ⟨v, hv⟩; exact h v hv

theorem live_congr (h : ∀ e, Has m'.cells e ↔ Has m.cells e) (k : κ) : live m' k = live m k :=
  live_eq (by simp only [h])

theorem live_putOk {v : Nat} (h : PutOk m m' k v) (k' : κ) : live m' k' = if k = k' then 1 else live m k' := by
  split
  · rename_i hk; subst hk; exact live_of_has ((h _).mpr (Or.inl rfl))
  · rename_i hk
    apply live_eq
    constructor
    · rintro ⟨w, hw⟩
      rcases (h _).mp hw with h1 | ⟨h1, _⟩
      · cases h1; exact absurd rfl hk
      · exact ⟨w, h1⟩
    · rintro ⟨w, hw⟩; exact ⟨w, (h _).mpr (Or.inr ⟨hw, fun e => hk e.symm⟩)⟩

theorem live_removed (h : ∀ e, Has m'.cells e ↔ (Has m.cells e ∧ e.1 ≠ k)) (k' : κ) :
    live m' k' = if k = k' then 0 else live m k' := by
  split
  · rename_i hk; subst hk; exact live_of_absent fun w hw => ((h _).mp hw).2 rfl
  · rename_i hk
    exact live_eq ⟨fun ⟨w, hw⟩ => ⟨w, ((h _).mp hw).1⟩, fun ⟨w, hw⟩ => ⟨w, (h _).mpr ⟨hw, fun e => hk e.symm⟩⟩⟩

end

theorem kdelta_remEvs {m : Map κ} (ha : m.autofree = true) (e : κ × Nat) (k' : κ) :
    kdelta k' (remEvs m e) = if e.1 = k' then -1 else 0 := by
  unfold remEvs
  rw [ha, if_pos rfl, kdelta_append, kdelta_cons, kdelta_nil]
  by_cases hd : m.dtor = true
  · rw [if_pos hd, kdelta_cons, kdelta_nil]; simp
  · rw [if_neg hd, kdelta_nil]; simp

theorem kdelta_dtorEvs (k' : κ) (b : Bool) (w : Nat) : kdelta k' (if b then [Ev.dtor w] else []) = 0 := by
  cases b <;> simp [kdelta]

structure Keeps (P : Params κ) (m : Map κ) (evs : List (Ev κ)) (m' : Map κ) : Prop where
  wf : WF P m'
  flags : SameFlags m m'
  ledger : m.autofree = true → ∀ k, kdelta k evs = live m' k - live m k

section
variable {P : Params κ} {m : Map κ}

theorem Keeps.refl (hwf : WF P m) : Keeps P m [] m :=
  ⟨hwf, SameFlags.refl m, fun _ k => by rw [kdelta_nil]; omega⟩

theorem Keeps.trans {a b c : Map κ} {e1 e2 : List (Ev κ)} (h1 : Keeps P a e1 b) (h2 : Keeps P b e2 c) :
    Keeps P a (e1 ++ e2) c :=
  ⟨h2.wf, h1.flags.trans h2.flags, fun ha k => by
    rw [kdelta_append, h1.ledger ha, h2.ledger (by rw [h1.flags.autofree]; exact ha)]; omega⟩

theorem Keeps.of_sameKeys {m' : Map κ} (hwf' : WF P m') (hF : SameFlags m m') (hk : SameKeys m.cells m'.cells) :
    Keeps P m [] m' := by
  refine ⟨hwf', hF, fun _ k => ?_⟩
  rw [kdelta_nil, live_eq ⟨hk.symm.has, hk.has⟩]
  omega

theorem put_keeps (hP : P.Good) (hwf : WF P m) (k : κ) (v : Nat) : Keeps P m (put P m k v).2.1 (put P m k v).1 := by
  obtain ⟨h1, h2, h3⟩ := put_spec hP hwf k v
  refine ⟨h1, h2, fun ha k' => ?_⟩
  rcases h3 with ⟨_, h⟩ | ⟨hv, r, hspec, e1, e2, e3⟩
  · rw [h]; simp [kdelta]
  · -- the key copy is allocated, and released again unless a new entry was created
    have hown : (m.dup || m.autofree) = true := by rw [ha]; simp
    rw [e3, if_pos hown, e1, kdelta_append, kdelta_append, kdelta_cons, kdelta_nil]
    rcases hspec with ⟨a, b, c⟩ | hfail
    · rw [live_putOk b k']
      rcases c with ⟨c1, c2, c3⟩ | ⟨w, c1, c2, c3, c4⟩
      · have hc : ¬ (r.2.2 ≠ 0 ∨ r.1.length = m.length) := by rw [a, c2]; simp
        rw [c3, if_neg hc, kdelta_nil]
        by_cases hk : k = k'
        · subst hk; rw [live_of_absent c1]; simp
        · simp [hk]
      · rw [c4, if_pos (Or.inr c3), kdelta_dtorEvs, kdelta_cons, kdelta_nil]
        by_cases hk : k = k'
        · subst hk; rw [live_of_has c1]; simp
        · simp [hk]
    · obtain ⟨a, b, c⟩ : r.2.2 ≠ 0 ∧ Unchanged m r.1 ∧ r.2.1 = [] := by
        rcases hfail with ⟨a, b, c, _⟩ | ⟨a, b, c, _⟩ <;> exact ⟨by rw [a]; decide, b, c⟩
      rw [c, if_pos (Or.inl a), kdelta_nil, kdelta_cons, kdelta_nil, live_congr b.1 k']
      by_cases hk : k = k' <;> simp [hk]

theorem clearElem_keeps (hP : P.Good) (hwf : WF P m) (i : Nat) : Keeps P m (clearElem P m i).2 (clearElem P m i).1 := by
  cases hs : slot m.cells i with
  | none => rw [clearElem_none P hs]; exact Keeps.refl hwf
  | some e =>
    obtain ⟨k, v⟩ := e
    obtain ⟨g1, g2, _, _, g5, g6⟩ := clearElem_spec hP hwf hs
    refine ⟨g1, g2, fun ha k' => ?_⟩
    have : (clearElem P m i).2 = remEvs m (k, v) := g6
    rw [this, kdelta_remEvs ha, live_removed g5 k']
    by_cases hk : k = k'
    · subst hk; rw [live_of_has (Has.of_slot hs)]; simp
    · simp [hk]

end

theorem clearElem_WF (P : Params κ) (hP : P.Good) (m : Map κ) (hwf : WF P m) (i : Nat) :
    WF P (clearElem P m i).1 ∧ (clearElem P m i).1.size = m.size := by
  refine ⟨(clearElem_keeps hP hwf i).wf, ?_⟩
  unfold clearElem
  split
  · rfl
  · exact length_cleared P m.cells i

section
variable {P : Params κ} {m : Map κ}

theorem remove_keeps (hP : P.Good) (hwf : WF P m) (k : κ) : Keeps P m (remove P m k).2.1 (remove P m k).1 := by
  unfold remove
  split
  · exact Keeps.refl hwf
  · split
    · exact Keeps.refl hwf
    · exact clearElem_keeps hP hwf _

theorem itrRemove_keeps (hP : P.Good) (hwf : WF P m) (it : Itr) :
    Keeps P m (itrRemove P m it).2.1 (itrRemove P m it).1 := by
  unfold itrRemove
  split
  · exact Keeps.refl hwf
  · exact clearElem_keeps hP hwf _

theorem clearLoop_keeps (hP : P.Good) : ∀ (fuel : Nat) (m : Map κ) (it : Option Itr), WF P m →
    Keeps P m (clearLoop P fuel m it).2 (clearLoop P fuel m it).1 := by
  intro fuel
  induction fuel with
  | zero => intro m it hwf; exact Keeps.refl hwf
  | succ fuel ih =>
    intro m it hwf
    cases it with
    | none => exact Keeps.refl hwf
    | some it =>
      have h1 := itrRemove_keeps hP hwf it
      exact h1.trans (ih _ _ h1.wf)

theorem runCb_keeps (hP : P.Good) (hwf : WF P m) (k : κ) (a : CbAct κ) :
    Keeps P m (outEvs (runCb P m k a).2.1) (runCb P m k a).1 := by
  have hoe : ∀ (evs : List (Ev κ)) (rc : Int), outEvs (evs.map Out.ev ++ [Out.rc rc]) = evs := by
    intro evs rc; rw [outEvs_append, outEvs_evs]; simp [outEvs]
  cases a with
  | cont => exact Keeps.refl hwf
  | stop => exact Keeps.refl hwf
  | err => exact Keeps.refl hwf
  | rm => simp only [runCb]; rw [hoe]; exact remove_keeps hP hwf k
  | del k2 => simp only [runCb]; rw [hoe]; exact remove_keeps hP hwf k2
  | put k2 v2 => simp only [runCb]; rw [hoe]; exact put_keeps hP hwf k2 v2

/-- `m_map_iterate` at an entry: the callback runs (result `r`), then the loop returns or goes on from some
position.  (`by_cases` per condition: `split` on these conditions is an order of magnitude dearer to check.) -/
theorem iterLoop_entry (cb : Nat → κ → Nat → CbAct κ) (fuel : Nat) {p stop : Nat} (vn : Nat) {k : κ} {v : Nat}
    (hp : p < stop) (hs : slot m.cells p = some (k, v)) {r : Map κ × List (Out κ) × Int}
    (hr : runCb P m k (cb vn k v) = r) :
    (∃ rc, iterLoop P cb (fuel + 1) m p stop vn = (r.1, Out.visit k v :: r.2.1, rc)) ∨
    (∃ p', iterLoop P cb (fuel + 1) m p stop vn =
      ((iterLoop P cb fuel r.1 p' stop (vn + 1)).1,
       Out.visit k v :: r.2.1 ++ (iterLoop P cb fuel r.1 p' stop (vn + 1)).2.1,
       (iterLoop P cb fuel r.1 p' stop (vn + 1)).2.2)) := by
  rw [iterLoop, if_pos hp, hs]
  simp only [hr]
  by_cases h1 : r.2.2 < 0
  · rw [if_pos h1]; exact Or.inl ⟨_, rfl⟩
  · rw [if_neg h1]
    by_cases h2 : r.2.2 > 0
    · rw [if_pos h2]; exact Or.inl ⟨_, rfl⟩
    · rw [if_neg h2]
      by_cases h3 : (slot r.1.cells p).map (·.1) ≠ some k
      · rw [if_pos h3]; exact Or.inr ⟨_, rfl⟩
      · rw [if_neg h3]
        by_cases h4 : m.length ≠ r.1.length
        · rw [if_pos h4]; exact Or.inl ⟨_, rfl⟩
        · rw [if_neg h4]; exact Or.inr ⟨_, rfl⟩

theorem iterLoop_keeps (hP : P.Good) (cb : Nat → κ → Nat → CbAct κ) (stop : Nat) :
    ∀ (fuel : Nat) (m : Map κ) (p vn : Nat), WF P m →
      Keeps P m (outEvs (iterLoop P cb fuel m p stop vn).2.1) (iterLoop P cb fuel m p stop vn).1 := by
  intro fuel
  induction fuel with
  | zero => intro m p vn h; exact Keeps.refl h
  | succ fuel ih =>
    intro m p vn h
    by_cases hp : p < stop
    · cases hs : slot m.cells p with
      | none => rw [iterLoop, if_pos hp, hs]; exact ih _ _ _ h
      | some e =>
        have h1 := runCb_keeps hP h e.1 (cb vn e.1 e.2)
        rcases iterLoop_entry cb fuel vn hp hs rfl with ⟨rc, heq⟩ | ⟨p', heq⟩
        · rw [heq]; exact h1
        · rw [heq]
          simp only [List.cons_append, outEvs, outEvs_append]
          exact h1.trans (ih _ _ _ h1.wf)
    · rw [iterLoop, if_neg hp]; exact Keeps.refl h

theorem iterate_keeps (hP : P.Good) (hwf : WF P m) (cb : Nat → κ → Nat → CbAct κ) :
    Keeps P m (outEvs (iterate P m cb).2.1) (iterate P m cb).1 := by
  unfold iterate
  split
  · exact Keeps.refl hwf
  · exact iterLoop_keeps hP cb _ _ _ _ _ hwf

theorem itrSet_keeps (hwf : WF P m) (it : Itr) (v : Nat) : Keeps P m [] (itrSet m it v).1 := by
  obtain ⟨g1, g2, _, g4, _⟩ := itrSet_spec hwf it v
  exact .of_sameKeys g1 g2 g4

end

def StOk (P : Params κ) (s : St κ) : Prop :=
  WF P s.map ∧ ∀ it, s.itr = some it → ItrOk P s.map it

section
variable {P : Params κ} {s : St κ}

theorem step_keeps (hP : P.Good) (h : StOk P s) (op : Op κ) :
    (∃ evs, (step P s op).log = s.log ++ evs ∧ Keeps P s.map evs (step P s op).map) ∧
    ∀ it, (step P s op).itr = some it → ItrOk P (step P s op).map it := by
  obtain ⟨hwf, hit⟩ := h
  have same : (∃ evs, s.log = s.log ++ evs ∧ Keeps P s.map evs s.map) := ⟨[], by simp, Keeps.refl hwf⟩
  have noItr : ∀ it, (none : Option Itr) = some it → ItrOk P (step P s op).map it := nofun
  cases op with
  | put k v => exact ⟨⟨_, rfl, put_keeps hP hwf k v⟩, noItr⟩
  | get k => exact ⟨same, hit⟩
  | has k => exact ⟨same, hit⟩
  | del k => exact ⟨⟨_, rfl, remove_keeps hP hwf k⟩, noItr⟩
  | len => exact ⟨same, hit⟩
  | clear => exact ⟨⟨_, rfl, clearLoop_keeps hP _ _ _ hwf⟩, noItr⟩
  | oom =>
    have hwf' : WF P { s.map with oom := true } := hwf.congr rfl rfl
    exact ⟨⟨[], by simp [step], .of_sameKeys hwf' ⟨rfl, rfl, rfl, rfl⟩ (.refl _)⟩,
      fun it h => (hit it h).of_sameKeys hwf' (.refl _)⟩
  | iterate cb => exact ⟨⟨_, rfl, iterate_keeps hP hwf cb⟩, noItr⟩
  | itNew =>
    refine ⟨same, fun it h => ?_⟩
    simp only [step] at h
    rcases itrNew_spec hwf with ⟨_, h1⟩ | ⟨_, it', h1, h2, _, _⟩
    · rw [h1] at h; cases h
    · rw [h1] at h; cases h; exact h2
  | itNext =>
    simp only [step]
    cases hi : s.itr with
    | none => exact ⟨same, hit⟩
    | some it0 =>
      refine ⟨same, fun it h => ?_⟩
      simp only at h
      rcases itrNext_spec (hit it0 hi) with ⟨h1, _⟩ | ⟨it', h1, h2, _, _, _, _⟩
      · rw [h1] at h; cases h
      · rw [h1] at h; cases h; exact h2
  | itGet => exact ⟨same, hit⟩
  | itKey => exact ⟨same, hit⟩
  | itSet v =>
    simp only [step]
    cases hi : s.itr with
    | none => exact ⟨same, hit⟩
    | some it0 =>
      obtain ⟨g1, _, _, g4, _⟩ := itrSet_spec hwf it0 v
      refine ⟨⟨[], by simp, itrSet_keeps hwf it0 v⟩, fun it h => ?_⟩
      cases h
      exact (hit it0 hi).of_sameKeys g1 g4
  | itRm =>
    simp only [step]
    cases hi : s.itr with
    | none => exact ⟨same, hit⟩
    | some it0 =>
      have hok := hit it0 hi
      refine ⟨⟨_, rfl, itrRemove_keeps hP hwf it0⟩, fun it h => ?_⟩
      simp only at h; cases h
      show ItrOk P (itrRemove P s.map it0).1 (itrRemove P s.map it0).2.2.1
      cases hr : it0.removed with
      | true => unfold itrRemove; rw [if_pos hr]; exact hok
      | false =>
        obtain ⟨⟨k, v⟩, hs⟩ := hok.occupied hr
        rw [itrRemove_eq P hr]
        exact hok.removed hP hs

theorem step_ok (hP : P.Good) (h : StOk P s) (op : Op κ) : StOk P (step P s op) :=
  have ⟨⟨_, _, hk⟩, hi⟩ := step_keeps hP h op
  ⟨hk.wf, hi⟩

theorem run_keeps (hP : P.Good) : ∀ (ops : List (Op κ)) (s : St κ), StOk P s →
    StOk P (run P s ops) ∧ ∃ evs, (run P s ops).log = s.log ++ evs ∧ Keeps P s.map evs (run P s ops).map := by
  intro ops
  induction ops with
  | nil => intro s h; exact ⟨h, [], by simp [run], Keeps.refl h.1⟩
  | cons o os ih =>
    intro s h
    obtain ⟨⟨e1, hl1, hk1⟩, _⟩ := step_keeps hP h o
    obtain ⟨hok, e2, hl2, hk2⟩ := ih (step P s o) (step_ok hP h o)
    exact ⟨hok, e1 ++ e2, by rw [← List.append_assoc, ← hl1]; exact hl2, hk1.trans hk2⟩

theorem run_ok (hP : P.Good) (ops : List (Op κ)) (h : StOk P s) : StOk P (run P s ops) :=
  (run_keeps hP ops s h).1

theorem run_delta (hP : P.Good) (k' : κ) (ops : List (Op κ)) (h : StOk P s) (ha : s.map.autofree = true) :
    kdelta k' (run P s ops).log - live (run P s ops).map k' = kdelta k' s.log - live s.map k' := by
  obtain ⟨_, evs, hl, hk⟩ := run_keeps hP ops s h
  rw [hl, kdelta_append, hk.ledger ha k']; omega

end

end Lm.Struct.Map
