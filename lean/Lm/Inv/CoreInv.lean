import Lm.Inv.CoreAbs
/-!
# Life-cycle invariants of the core machine and the state changes that keep them

`Inv`  (at every callback boundary and every API return, for every callback program):
* `run`   — the context's running counter equals the number of its modules in RUNNING state;
* `out`   — a module that is no longer in its context's table is STOPPED (being deregistered) or a ZOMBIE;
* `names` — modules in the table have pairwise distinct names;
* `fresh` — context identities in use are below `nextCtx`;
* `trans`, `log`, `logm` — the ghost log of state changes holds documented edges only, ends for every module in
  its present state, and names existing modules.
`Mono` (from the start of a program to each of its suspensions and to its end; hence across every
callback): modules are only appended; leaving the table and becoming a ZOMBIE are final; name,
context, flags, hooks and slot never change.
-/
namespace Lm.Core

/-- the documented edges of the module life cycle (docs/concepts/mod.md), plus "no change"; IDLE → STOPPED exists only
as the first half of a deregistration (`stop()` runs — with the stop hook — before the module becomes a ZOMBIE) -/
def Trans.ok (t : Trans) : Bool :=
  t.src == t.dst ||
  match t.src, t.dst with
  | .idle, .running | .running, .paused | .paused, .running | .running, .stopped | .paused, .stopped
  | .stopped, .running => true
  | .zombie, _ => false
  | _, .zombie => true          -- deregistration, from any state
  | .idle, .stopped => t.out
  | _, _ => false

def lastState (l : List Trans) (m : ModId) : MState :=
  match (l.filter (fun t => t.m == m)).getLast? with
  | some t => t.dst
  | none => .idle

theorem lastState_append_same (l : List Trans) (t : Trans) : lastState (l ++ [t]) t.m = t.dst := by
  simp [lastState, List.filter_append]

theorem lastState_append_other (l : List Trans) (t : Trans) (k : ModId) (h : t.m ≠ k) : lastState (l ++ [t]) k = lastState l k := by
  have : (t.m == k) = false := by simp [h]
  simp [lastState, List.filter_append, this]

theorem lastState_fresh (l : List Trans) (k : ModId) (h : ∀ t ∈ l, t.m ≠ k) : lastState l k = .idle := by
  have : l.filter (fun t => t.m == k) = [] := List.filter_eq_nil_iff.mpr fun t ht => by simp [h t ht]
  simp [lastState, this]

def runCount (l : List Sig) (id : Nat) : Nat := l.countP (fun g => g.state == .running && g.ctxId == id)

structure Inv (s : St) : Prop where
  run : ∀ c, s.ctx = some c → c.running = runCount s.sigs c.id
  out : ∀ (m : Nat) (g : Sig), s.sigs[m]? = some g → g.inCtx = false → g.state = .stopped ∨ g.state = .zombie
  names : ∀ (m n : Nat) (g h : Sig), s.sigs[m]? = some g → s.sigs[n]? = some h → g.inCtx = true → h.inCtx = true →
    g.name = h.name → m = n
  fresh : (∀ (m : Nat) (g : Sig), s.sigs[m]? = some g → g.ctxId < s.nextCtx) ∧ (∀ c, s.ctx = some c → c.id < s.nextCtx)
  trans : ∀ t ∈ s.trans, t.ok = true
  log : ∀ (m : Nat) (g : Sig), s.sigs[m]? = some g → lastState s.trans m = g.state
  logm : ∀ t ∈ s.trans, t.m < s.sigs.length

def Mono (a s : St) : Prop :=
  ∀ (m : Nat) (g : Sig), a.sigs[m]? = some g → ∃ g' : Sig, s.sigs[m]? = some g' ∧ (g.inCtx = false → g'.inCtx = false) ∧
    (g.state = .zombie → g'.state = .zombie) ∧ g'.name = g.name ∧ g'.ctxId = g.ctxId ∧ g'.hooks = g.hooks ∧
    g'.flags = g.flags ∧ g'.slot = g.slot

theorem Mono.refl (s : St) : Mono s s := fun _ g h => ⟨g, h, id, id, rfl, rfl, rfl, rfl, rfl⟩

theorem Mono.trans {a b c : St} (h1 : Mono a b) (h2 : Mono b c) : Mono a c := by
  intro m g hg
  obtain ⟨g1, e1, i1, z1, n1, c1, k1, f1, s1⟩ := h1 m g hg
  obtain ⟨g2, e2, i2, z2, n2, c2, k2, f2, s2⟩ := h2 m g1 e1
  exact ⟨g2, e2, fun h => i2 (i1 h), fun h => z2 (z1 h), n2.trans n1, c2.trans c1, k2.trans k1, f2.trans f1, s2.trans s1⟩

theorem Mono.congr_right {a s s' : St} (h1 : s'.sigs = s.sigs) (h : Mono a s) : Mono a s' := by
  unfold Mono; rw [h1]; exact h

theorem Inv.congr_key {s s' : St} (h1 : s'.sigs = s.sigs)
    (h2 : ∀ c', s'.ctx = some c' → ∃ c, s.ctx = some c ∧ c'.id = c.id ∧ c'.running = c.running)
    (h3 : s'.nextCtx = s.nextCtx) (h4 : s'.trans = s.trans) (h : Inv s) : Inv s' := by
  refine ⟨fun c' hc => ?_, by rw [h1]; exact h.out, by rw [h1]; exact h.names, ⟨by rw [h1, h3]; exact h.fresh.1, fun c' hc => ?_⟩,
    by rw [h4]; exact h.trans, by rw [h1, h4]; exact h.log, by rw [h1, h4]; exact h.logm⟩
  · obtain ⟨c, hc0, hid, hr⟩ := h2 c' hc
    rw [h1, hid, hr]; exact h.run c hc0
  · obtain ⟨c, hc0, hid, _⟩ := h2 c' hc
    rw [h3, hid]; exact h.fresh.2 c hc0

theorem Inv.of_view {s x : St} (h : x.sigs = s.sigs ∧ x.ctx = s.ctx ∧ x.nextCtx = s.nextCtx ∧ x.trans = s.trans) (hI : Inv s) : Inv x :=
  Inv.congr_key h.1 (fun c' hc => ⟨c', h.2.1 ▸ hc, rfl, rfl⟩) h.2.2.1 h.2.2.2 hI

theorem Quiet.inv {g : St → St} (hg : Quiet g) {s : St} (hI : Inv s) : Inv (g s) := Inv.of_view (hg.view s) hI

theorem Inv.inCtx {s : St} (hI : Inv s) {m : ModId} {g : Sig} (hg : s.sigs[m]? = some g) (h1 : g.state ≠ .stopped) (h2 : g.state ≠ .zombie) :
    g.inCtx = true := by
  cases hin : g.inCtx with
  | true => rfl
  | false => rcases hI.out m g hg hin with h | h <;> contradiction

theorem frameable : Frameable Inv Mono where
  refl := Mono.refl
  trans := fun _ _ _ => Mono.trans
  emitI := fun s o h => Inv.of_view (s := s) (x := s.emit o) ⟨rfl, rfl, rfl, rfl⟩ h
  emitM := fun _ s o h => Mono.congr_right (s := s) (s' := s.emit o) rfl h
  errnoI := fun s e h => Inv.of_view (s := s) (x := { s with errno := e }) ⟨rfl, rfl, rfl, rfl⟩ h
  errnoM := fun _ s e h => Mono.congr_right (s := s) (s' := { s with errno := e }) rfl h

theorem inv_init : Inv {} := by
  refine ⟨?_, ?_, ?_, ⟨?_, ?_⟩, ?_, ?_, ?_⟩ <;> simp [St.sigs]

@[simp] theorem updCtx_sigs (s : St) (f) : (s.updCtx f).sigs = s.sigs := by
  unfold St.updCtx; split <;> rfl
@[simp] theorem updCtx_nextCtx (s : St) (f) : (s.updCtx f).nextCtx = s.nextCtx := by
  unfold St.updCtx; split <;> rfl
@[simp] theorem updCtx_trans (s : St) (f) : (s.updCtx f).trans = s.trans := by
  unfold St.updCtx; split <;> rfl
theorem updCtx_ctx (s : St) (f) : (s.updCtx f).ctx = s.ctx.map f := by
  unfold St.updCtx; cases h : s.ctx <;> simp [h]

@[simp] theorem updCtxId_mods (s : St) (id f) : (s.updCtxId id f).mods = s.mods := by
  unfold St.updCtxId; split
  · split <;> rfl
  · rfl
@[simp] theorem updCtxId_sigs (s : St) (id f) : (s.updCtxId id f).sigs = s.sigs := by
  unfold St.sigs; rw [updCtxId_mods]
@[simp] theorem updCtxId_nextCtx (s : St) (id f) : (s.updCtxId id f).nextCtx = s.nextCtx := by
  unfold St.updCtxId; split
  · split <;> rfl
  · rfl
@[simp] theorem updCtxId_trans (s : St) (id f) : (s.updCtxId id f).trans = s.trans := by
  unfold St.updCtxId; split
  · split <;> rfl
  · rfl
theorem updCtxId_ctx (s : St) (id f) : (s.updCtxId id f).ctx = s.ctx.map fun c => if c.id == id then f c else c := by
  unfold St.updCtxId; split
  · split <;> simp_all
  · simp_all

@[simp] theorem setCurrOf_sigs (s : St) (m x) : (setCurrOf m x s).sigs = s.sigs := updCtxId_sigs s _ _
@[simp] theorem setCurrOf_trans (s : St) (m x) : (setCurrOf m x s).trans = s.trans := updCtxId_trans s _ _

theorem inv_updCtx (s : St) (f : Ctx → Ctx) (hid : ∀ c, (f c).id = c.id) (hrun : ∀ c, (f c).running = c.running)
    (hI : Inv s) : Inv (s.updCtx f) :=
  Inv.congr_key (updCtx_sigs s f) (fun c' hc => by
    obtain ⟨c, hc0, rfl⟩ := Option.map_eq_some_iff.mp (updCtx_ctx s f ▸ hc)
    exact ⟨c, hc0, hid c, hrun c⟩) (updCtx_nextCtx s f) (updCtx_trans s f) hI

theorem Inv.setCurrOf {s : St} (m x) (h : Inv s) : Inv (setCurrOf m x s) :=
  Inv.congr_key (setCurrOf_sigs s m x) (fun c' hc => by
    obtain ⟨c, hc0, rfl⟩ := Option.map_eq_some_iff.mp (updCtxId_ctx s _ _ ▸ hc)
    exact ⟨c, hc0, by split <;> rfl, by split <;> rfl⟩) (updCtxId_nextCtx s _ _) (setCurrOf_trans s m x) h

theorem inv_ctx_none (s : St) (d : List Ctx) (hI : Inv s) : Inv { s with ctx := none, deadCtx := d } :=
  Inv.congr_key (s := s) rfl (fun _ hc => by simp at hc) rfl rfl hI

theorem runCount_fresh (l : List Sig) (id : Nat) (h : ∀ (m : Nat) (g : Sig), l[m]? = some g → g.ctxId < id) : runCount l id = 0 := by
  unfold runCount
  apply List.countP_eq_zero.mpr
  intro g hg
  obtain ⟨k, hk, hkg⟩ := List.getElem_of_mem hg
  have := h k g (by simp [List.getElem?_eq_getElem hk, hkg])
  simp
  omega

theorem inv_ctx_new (s : St) (c : Ctx) (hI : Inv s) (hid : c.id = s.nextCtx) (hr : c.running = 0) :
    Inv { s with ctx := some c, nextCtx := s.nextCtx + 1 } := by
  refine ⟨fun c' hc => ?_, hI.out, hI.names, ⟨fun m g hg => Nat.lt_succ_of_lt (hI.fresh.1 m g hg), fun c' hc => ?_⟩, hI.trans, hI.log, hI.logm⟩
  · cases hc
    show c.running = runCount s.sigs c.id
    rw [hr, hid, runCount_fresh s.sigs s.nextCtx hI.fresh.1]
  · cases hc
    show c.id < s.nextCtx + 1
    omega

def Sig.setState (g : Sig) (x : MState) : Sig := { g with state := x }

/-- the signature `stop()` leaves behind -/
def Sig.stopped (g : Sig) (x : MState) (leave : Bool) : Sig :=
  { g with state := x, inCtx := if leave then false else g.inCtx }

theorem ctxIdOf_eq {s : St} {m : ModId} {g : Sig} (h : s.sigs[m]? = some g) : s.ctxIdOf m = g.ctxId := by
  obtain ⟨md, hm, rfl⟩ := mod_of_sig h
  simp [St.ctxIdOf, hm, Mod.sig]

theorem stateIs_sig {s : St} {m : ModId} {g : Sig} (h : s.sigs[m]? = some g) (x : MState) :
    stateIs s m x = (g.state == x) := by
  obtain ⟨md, hm, rfl⟩ := mod_of_sig h
  simp [stateIs, hm, Mod.sig]

@[simp] theorem setState_ctx (s : St) (m x) : (setState s m x).ctx = s.ctx := by
  unfold setState; split <;> rfl
@[simp] theorem setState_deadCtx (s : St) (m x) : (setState s m x).deadCtx = s.deadCtx := by
  unfold setState; split <;> rfl
@[simp] theorem setState_nextCtx (s : St) (m x) : (setState s m x).nextCtx = s.nextCtx := by
  unfold setState; split <;> rfl

theorem setState_mods (s : St) (m : ModId) (x : MState) : (setState s m x).mods = s.mods.modify m fun md => { md with state := x } := by
  unfold setState
  cases h : s.mods[m]? with
  | none => rw [List.modify_eq_self (by simpa using h)]
  | some md => simp [List.modify_eq_set, h]

theorem setState_sigs (s : St) (m : ModId) (x : MState) : (setState s m x).sigs = s.sigs.modify m (·.setState x) := by
  unfold St.sigs; rw [setState_mods]; exact List.map_modify Mod.sig (fun _ => rfl) s.mods m

theorem setState_trans {s : St} {m : ModId} {g : Sig} (h : s.sigs[m]? = some g) (x : MState) :
    (setState s m x).trans = s.trans ++ [{ m := m, src := g.state, dst := x, out := !g.inCtx }] := by
  obtain ⟨md, hm, rfl⟩ := mod_of_sig h
  simp [setState, hm, Mod.sig]

theorem stopStep_ctx (s : St) (m : ModId) (x : MState) (leave : Bool) :
    (stopStep s m x leave).ctx =
      (if stateIs s m .running then s.updCtxId (s.ctxIdOf m) (fun c => { c with running := c.running - 1 }) else s).ctx := by
  unfold stopStep
  cases leave <;> simp

theorem stopStep_nextCtx (s : St) (m : ModId) (x : MState) (leave : Bool) : (stopStep s m x leave).nextCtx = s.nextCtx := by
  unfold stopStep
  cases leave <;> simp [apply_ite St.nextCtx]

theorem stopStep_sigs (s : St) (m : ModId) (x : MState) (leave : Bool) :
    (stopStep s m x leave).sigs = s.sigs.modify m (·.stopped x leave) := by
  unfold stopStep
  rw [setState_sigs]
  cases leave with
  | false =>
    simp only [Bool.false_eq_true, if_false, apply_ite St.sigs, updCtxId_sigs, ite_self]
    rfl
  | true =>
    simp only [if_true]
    rw [updMod_sigs_modify (f' := fun g => { g with inCtx := false }) _ m fun _ => rfl, apply_ite St.sigs, updCtxId_sigs,
      ite_self, List.modify_modify_eq]
    rfl

theorem stopStep_trans {s : St} {m : ModId} {g : Sig} (h : s.sigs[m]? = some g) (x : MState) (leave : Bool) :
    (stopStep s m x leave).trans = s.trans ++ [{ m := m, src := g.state, dst := x, out := leave || !g.inCtx }] := by
  unfold stopStep
  cases leave with
  | false =>
    simp only [Bool.false_eq_true, if_false]
    rw [setState_trans (g := g) (by rw [apply_ite St.sigs, updCtxId_sigs, ite_self]; exact h), apply_ite St.trans, updCtxId_trans,
      ite_self, Bool.false_or]
  | true =>
    simp only [if_true]
    rw [setState_trans (g := { g with inCtx := false }) (by
        rw [updMod_sigs_modify (f' := fun g => { g with inCtx := false }) _ m fun _ => rfl, apply_ite St.sigs, updCtxId_sigs,
          ite_self, List.getElem?_modify_eq, h]
        rfl),
      updMod_trans, apply_ite St.trans, updCtxId_trans, ite_self]
    rfl

def Sig.runs (g : Sig) (id : Nat) : Nat := if g.state == .running && g.ctxId == id then 1 else 0

theorem runCount_modify {l : List Sig} {m : Nat} {g : Sig} (h : l[m]? = some g) (f : Sig → Sig) (id : Nat) :
    runCount (l.modify m f) id + g.runs id = runCount l id + (f g).runs id := by
  haveI : Inhabited Sig := ⟨g⟩
  rw [List.modify_eq_set, h, Option.getD_some]
  obtain ⟨hlt, rfl⟩ := List.getElem?_eq_some_iff.mp h
  have := List.boole_getElem_le_countP (p := fun g => g.state == .running && g.ctxId == id) hlt
  unfold runCount Sig.runs
  rw [List.countP_set hlt]
  omega

theorem Inv.running_pos {s : St} (hI : Inv s) {m : ModId} {g : Sig} (hg : s.sigs[m]? = some g) (hr : g.state = .running)
    {c : Ctx} (hc : s.ctx = some c) (hid : c.id = g.ctxId) : 0 < c.running := by
  rw [hI.run c hc]
  exact List.countP_pos_iff.mpr ⟨g, List.mem_of_getElem? hg, by simp [hr, hid]⟩

theorem inv_set {s s' : St} {m : ModId} {g : Sig} {f : Sig → Sig} {t : Trans} (hI : Inv s) (hg : s.sigs[m]? = some g)
    (hs : s'.sigs = s.sigs.modify m f) (hname : (f g).name = g.name) (hcid : (f g).ctxId = g.ctxId)
    (hin : (f g).inCtx = true → g.inCtx = true) (hout : (f g).inCtx = false → (f g).state = .stopped ∨ (f g).state = .zombie)
    (hnext : s'.nextCtx = s.nextCtx)
    (hctx : ∀ c', s'.ctx = some c' → ∃ c, s.ctx = some c ∧ c'.id = c.id ∧ c'.running + g.runs c.id = c.running + (f g).runs c.id)
    (hlog : s'.trans = s.trans ++ [t]) (hok : t.ok = true) (htm : t.m = m) (htd : t.dst = (f g).state) : Inv s' := by
  refine ⟨fun c' hc' => ?_, ?_, ?_, ⟨?_, fun c' hc' => ?_⟩, ?_, ?_, ?_⟩
  · obtain ⟨c, hc, hid, hbal⟩ := hctx c' hc'
    have := runCount_modify hg f c.id
    rw [hI.run c hc] at hbal
    rw [hs, hid]
    omega
  · rw [hs]
    intro k g1 hk hi
    rcases (List.getElem?_modify_eq_some hg).mp hk with ⟨_, rfl⟩ | ⟨_, hk⟩
    · exact hout hi
    · exact hI.out k g1 hk hi
  · rw [hs]
    intro k n g1 g2 hk hn h1 h2 hnm
    rcases (List.getElem?_modify_eq_some hg).mp hk with ⟨rfl, rfl⟩ | ⟨_, hk⟩ <;>
      rcases (List.getElem?_modify_eq_some hg).mp hn with ⟨rfl, rfl⟩ | ⟨_, hn⟩
    · rfl
    · exact hI.names m n g g2 hg hn (hin h1) h2 (hname ▸ hnm)
    · exact hI.names k m g1 g hk hg h1 (hin h2) (hnm.trans hname)
    · exact hI.names k n g1 g2 hk hn h1 h2 hnm
  · rw [hs, hnext]
    intro k g1 hk
    rcases (List.getElem?_modify_eq_some hg).mp hk with ⟨_, rfl⟩ | ⟨_, hk⟩
    · exact hcid ▸ hI.fresh.1 m g hg
    · exact hI.fresh.1 k g1 hk
  · obtain ⟨c, hc, hid, _⟩ := hctx c' hc'
    rw [hnext, hid]; exact hI.fresh.2 c hc
  · rw [hlog]; exact List.forall_mem_append.mpr ⟨hI.trans, List.forall_mem_singleton.mpr hok⟩
  · rw [hs, hlog]
    intro k g1 hk
    rcases (List.getElem?_modify_eq_some hg).mp hk with ⟨rfl, rfl⟩ | ⟨hmk, hk⟩
    · rw [← htm, lastState_append_same, htd]
    · rw [lastState_append_other _ _ _ (htm ▸ hmk)]
      exact hI.log k g1 hk
  · rw [hs, hlog, List.length_modify]
    exact List.forall_mem_append.mpr ⟨hI.logm, List.forall_mem_singleton.mpr (htm ▸ (List.getElem?_eq_some_iff.mp hg).1)⟩

theorem inv_stop {s : St} {m : ModId} {g : Sig} {x : MState} {leave : Bool} (hI : Inv s) (hg : s.sigs[m]? = some g)
    (hx : x ≠ .running) (hout : (g.stopped x leave).inCtx = false → x = .stopped ∨ x = .zombie)
    (hok : Trans.ok { m := m, src := g.state, dst := x, out := leave || !g.inCtx } = true) : Inv (stopStep s m x leave) := by
  refine inv_set hI hg (stopStep_sigs s m x leave) rfl rfl (fun h => ?_) hout (stopStep_nextCtx s m x leave) (fun c' hc' => ?_)
    (stopStep_trans hg x leave) hok rfl rfl
  · cases leave
    · exact h
    · cases h
  · have hx' : ∀ id, (g.stopped x leave).runs id = 0 := fun id => by simp [Sig.runs, Sig.stopped, hx]
    rw [stopStep_ctx, stateIs_sig hg, ctxIdOf_eq hg] at hc'
    by_cases hr : g.state = .running
    · rw [if_pos (by simp [hr]), updCtxId_ctx] at hc'
      obtain ⟨c, hc, rfl⟩ := Option.map_eq_some_iff.mp hc'
      refine ⟨c, hc, by split <;> rfl, ?_⟩
      rw [hx']
      by_cases hid : c.id = g.ctxId
      · have := hI.running_pos hg hr hc hid
        simp [Sig.runs, hr, hid]
        omega
      · simp [Sig.runs, hid, Ne.symm hid]
    · rw [if_neg (by simp [hr])] at hc'
      exact ⟨c', hc', rfl, by rw [hx']; simp [Sig.runs, hr]⟩

theorem inv_start {s : St} {m : ModId} {g : Sig} (hI : Inv s) (hg : s.sigs[m]? = some g)
    (hnr : g.state ≠ .running) (hin : g.inCtx = true) (hz : g.state ≠ .zombie) :
    Inv (setState (s.updCtxId (s.ctxIdOf m) (fun c => { c with running := c.running + 1 })) m .running) := by
  rw [ctxIdOf_eq hg]
  have hg' : (s.updCtxId g.ctxId fun c => { c with running := c.running + 1 }).sigs[m]? = some g := by rw [updCtxId_sigs]; exact hg
  refine inv_set hI hg (by rw [setState_sigs, updCtxId_sigs]) rfl rfl (fun _ => hin)
    (fun h => by cases hin.symm.trans h) (by simp) (fun c' hc' => ?_)
    ((setState_trans hg' .running).trans (by rw [updCtxId_trans])) ?_ rfl rfl
  · rw [setState_ctx, updCtxId_ctx] at hc'
    obtain ⟨c, hc, rfl⟩ := Option.map_eq_some_iff.mp hc'
    refine ⟨c, hc, by split <;> rfl, ?_⟩
    by_cases hid : c.id = g.ctxId
    · simp [Sig.runs, Sig.setState, hnr, hid]
    · simp [Sig.runs, Sig.setState, hnr, hid, Ne.symm hid]
  · revert hnr hz
    generalize g.state = st
    cases st <;> simp [Trans.ok]

theorem inv_zombie {s : St} {m : ModId} {g : Sig} (hI : Inv s) (hg : s.sigs[m]? = some g) (hnr : g.state ≠ .running) :
    Inv (setState s m .zombie) := by
  refine inv_set hI hg (setState_sigs s m .zombie) rfl rfl (fun h => h) (fun _ => .inr rfl) (setState_nextCtx s m _)
    (fun c' hc' => ⟨c', (setState_ctx s m _).symm.trans hc', rfl, by simp [Sig.runs, Sig.setState, hnr]⟩)
    (setState_trans hg .zombie) ?_ rfl rfl
  generalize g.state = st
  cases st <;> rfl

theorem mono_set {s s' : St} {m : ModId} {g : Sig} {f : Sig → Sig} (hg : s.sigs[m]? = some g) (hs : s'.sigs = s.sigs.modify m f)
    (h1 : g.inCtx = false → (f g).inCtx = false) (h2 : g.state = .zombie → (f g).state = .zombie)
    (h3 : (f g).name = g.name) (h4 : (f g).ctxId = g.ctxId) (h5 : (f g).hooks = g.hooks) (h6 : (f g).flags = g.flags)
    (h7 : (f g).slot = g.slot) : Mono s s' := by
  intro k g0 hk
  rw [hs]
  by_cases hmk : m = k
  · cases (hmk ▸ hg).symm.trans hk
    exact ⟨f g, (List.getElem?_modify_eq_some hg).mpr (.inl ⟨hmk, rfl⟩), h1, h2, h3, h4, h5, h6, h7⟩
  · exact ⟨g0, (List.getElem?_modify_eq_some hg).mpr (.inr ⟨hmk, hk⟩), id, id, rfl, rfl, rfl, rfl, rfl⟩

theorem mono_stop {s : St} {m : ModId} {g : Sig} (hg : s.sigs[m]? = some g) (hz : g.state ≠ .zombie) (x : MState) (leave : Bool) :
    Mono s (stopStep s m x leave) :=
  mono_set hg (stopStep_sigs s m x leave) (fun h => by cases leave <;> simp [Sig.stopped, h]) (fun h => absurd h hz) rfl rfl rfl rfl rfl

theorem mono_start {s : St} {m : ModId} {g : Sig} (hg : s.sigs[m]? = some g) (hz : g.state ≠ .zombie) (f : Ctx → Ctx) :
    Mono s (setState (s.updCtxId (s.ctxIdOf m) f) m .running) :=
  mono_set hg (by rw [setState_sigs, updCtxId_sigs]) (fun h => h) (fun h => absurd h hz) rfl rfl rfl rfl rfl

theorem mono_zombie {s : St} {m : ModId} {g : Sig} (hg : s.sigs[m]? = some g) : Mono s (setState s m .zombie) :=
  mono_set hg (setState_sigs s m .zombie) (fun h => h) (fun _ => rfl) rfl rfl rfl rfl rfl

theorem sigs_append (s : St) (md : Mod) : ({ s with mods := s.mods ++ [md] } : St).sigs = s.sigs ++ [md.sig] := by
  simp [St.sigs]

theorem inv_append {s : St} (md : Mod) (hI : Inv s) (hst : md.state = .idle) (hin : md.inCtx = true)
    (hcid : md.ctxId < s.nextCtx) (hfree : ∀ (k : Nat) (g : Sig), s.sigs[k]? = some g → g.inCtx = true → g.name ≠ md.name) :
    Inv { s with mods := s.mods ++ [md] } := by
  have hs := sigs_append s md
  refine ⟨fun c hc => ?_, ?_, ?_, ⟨?_, hI.fresh.2⟩, hI.trans, ?_, ?_⟩
  · rw [hs]
    simpa [runCount, List.countP_append, Mod.sig, hst] using hI.run c hc
  · rw [hs]
    intro k g hk hi
    rcases List.getElem?_concat_eq_some.mp hk with hk | ⟨_, rfl⟩
    · exact hI.out k g hk hi
    · exact absurd hin (by simpa [Mod.sig] using hi)
  · rw [hs]
    intro k n g1 g2 hk hn h1 h2 hname
    rcases List.getElem?_concat_eq_some.mp hk with hk | ⟨rfl, rfl⟩ <;> rcases List.getElem?_concat_eq_some.mp hn with hn | ⟨rfl, rfl⟩
    · exact hI.names k n g1 g2 hk hn h1 h2 hname
    · exact absurd hname (hfree k g1 hk h1)
    · exact absurd hname.symm (hfree n g2 hn h2)
    · rfl
  · rw [hs]
    intro k g hk
    rcases List.getElem?_concat_eq_some.mp hk with hk | ⟨_, rfl⟩
    · exact hI.fresh.1 k g hk
    · exact hcid
  · rw [hs]
    intro k g hk
    show lastState s.trans k = g.state
    rcases List.getElem?_concat_eq_some.mp hk with hk | ⟨rfl, rfl⟩
    · exact hI.log k g hk
    · -- nothing was logged yet for an index beyond the table
      rw [lastState_fresh s.trans _ fun t ht => Nat.ne_of_lt (hI.logm t ht)]
      exact hst.symm
  · rw [hs, List.length_append]
    exact fun t ht => Nat.lt_add_right 1 (hI.logm t ht)

theorem mono_append (s : St) (md : Mod) : Mono s { s with mods := s.mods ++ [md] } :=
  fun k g hk => ⟨g, by rw [sigs_append]; exact List.getElem?_concat_eq_some.mpr (.inl hk), id, id, rfl, rfl, rfl, rfl, rfl⟩

end Lm.Core
