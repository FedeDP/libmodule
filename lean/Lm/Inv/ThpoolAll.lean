import Lm.Inv.ThpoolControl
import Lm.Inv.ThpoolThreads
import Lm.Inv.ThpoolLoop
import Lm.Inv.ThpoolShutdown
import Lm.Inv.ThpoolTasks
/-! The invariant holds initially, is preserved by every transition, hence holds in every reachable state. -/
namespace Lm.Thpool
variable {s s' : State} {l : Label}

theorem finSupp_step (hi : Inv s) (h : Step s l s') : ∃ N : Nat, ∀ u : Nat, N ≤ u → s'.pc u = .none := by
  obtain ⟨N, hN⟩ := hi.finSupp
  refine ⟨N + l.tid + 1 + (match l.act with | .create j => j + 1 | _ => 0), fun (u : Nat) hu => ?_⟩
  have hne : u ≠ l.tid := by omega
  rcases h.pc_frame hne with e | ⟨_, _, e⟩
  · rw [e]; exact hN u (by omega)
  · rw [e] at hu; simp only at hu; omega

/-- every clause computed on the initial state, where only thread 0 exists (at `mNewCreate`, or at `mNewRet` for a lazy
pool); those about a thread `u` split on `u = 0` -/
theorem inv_init (c : Cfg) (hc : 0 < c.maxThreads) : Inv (init c) := by
  constructor
  all_goals (cases hl : c.isLazy <;> simp [init, upd_apply, hl, hc])
  all_goals (try (intro u; split <;> simp_all))
  all_goals (exact ⟨1, fun (u : Nat) hu e => by omega⟩)

theorem inv_step (hi : Inv s) (hp : pre s l = true) (h : Step s l s') : Inv s' where
  maxPos := h.cfg ▸ hi.maxPos
  mainIsM := mainIsM_step hi h
  othersNotM := othersNotM_step hi h
  mutex := mutex_step hi h
  owner := owner_step hi h
  waitPc := waitPc_step hi h
  waitNodup := waitNodup_step hi h
  addingIff := addingIff_step hi h
  addingNodup := addingNodup_step hi h
  liveHandle := liveHandle_step hi hp h
  shutNo := (shut_step hi h).1
  shutSet := (shut_step hi h).2
  workersIff := workersIff_step hi h
  workersNodup := workersNodup_step hi h
  threadsNodup := threadsNodup_step hi h
  thrSub := thrSub_step hi h
  pendPc := pendPc_step hi h
  pendNone := pendNone_step hi h
  pendSome := pendSome_step hi h
  pendSelf := pendSelf_step hi h
  lenRel := lenRel_step hi h
  workersLe := workersLe_step hi h
  createRoom := createRoom_step hi h
  newIdx := newIdx_step hi h
  eagerFull := eagerFull_step hi h
  enqThreads := enqThreads_step hi h
  tasksThreads := tasksThreads_step hi h
  tasksFreed := tasksFreed_step hi h
  waitShut := waitShut_step hi h
  bcastDone := bcastDone_step hi h
  breakChk := breakChk_step hi h
  breakLen := breakLen_step hi h
  deqNonempty := deqNonempty_step hi h
  exitShut := exitShut_step hi h
  exitAllEmpty := exitAllEmpty_step hi h
  aliveCnt := aliveCnt_step hi h
  joinCover := fun hp => (join_step hi h hp).1
  joinSub := fun hp => (join_step hi h hp).2
  goneAll := goneAll_step hi h
  doneAll := doneAll_step hi h
  flags := flags_step hi h
  detPath := (paths_step hi h).1
  nondetPath := (paths_step hi h).2
  tasksNodup := tasksNodup_step hi h
  queued := queued_step hi h
  heldInv := heldInv_step hi h
  inTaskInv := inTaskInv_step hi h
  execCnt := fun k => (taskFacts_step hi h k).1
  finStarted := fun k => (taskFacts_step hi h k).2.1
  accSub := fun k => (taskFacts_step hi h k).2.2.1
  startAcc := fun k => (taskFacts_step hi h k).2.2.2.1
  discInv := fun k => (taskFacts_step hi h k).2.2.2.2.1
  ranArg := fun k => (taskFacts_step hi h k).2.2.2.2.2
  runningInv := runningInv_step hi h
  pendingInv := pendingInv_step hi h
  preEnqInv := preEnqInv_step hi h
  nPreEnqInv := nPreEnqInv_step hi h
  pastChkNo := pastChkNo_step hi h
  newQuiet := newQuiet_step hi h
  discPhase := discPhase_step hi h
  waitAlive := waitAlive_step hi h
  mainWait := mainWait_step hi h
  finSupp := finSupp_step hi h

theorem inv_reach {c : Cfg} (hc : 0 < c.maxThreads) {s : State} (hr : Reach c s) : Inv s := by
  induction hr with
  | init => exact inv_init c hc
  | step l _ hp hs ih => exact inv_step ih hp (.of_step hs)

theorem reach_cfg {c : Cfg} {s : State} (hr : Reach c s) : s.cfg = c := by
  induction hr with
  | init => rfl
  | step l _ _ hs ih => rw [(Step.of_step hs).cfg]; exact ih

theorem reach_of_run {c : Cfg} : ∀ (ls : List Label) (s s' : State), Reach c s → okRun s ls = true → run s ls = some s' → Reach c s'
  | [], s, s', hr, _, h => by simp [run] at h; subst h; exact hr
  | l :: ls, s, s', hr, hok, h => by
    simp only [okRun, Bool.and_eq_true] at hok
    simp only [run] at h
    cases hs : step s l with
    | none => simp [hs] at h
    | some s1 =>
      simp only [hs] at h hok
      exact reach_of_run ls s1 s' (Reach.step l hr hok.1 hs) hok.2 h

end Lm.Thpool
