import Lm.Inv.ThpoolPc
/-!
# The transitions of the thread-pool system as a relation

`Step s l s'` lists the enabled transitions of `step`, one constructor per statement of `thpool.c` and outcome of its
test or library call, named after the program counter it leaves, so that an invariant proof can do `cases` on it and
name the transitions it is about (`Step.of_step`; the converse is not needed).  Then one lemma per field of the state,
or group of fields that are written together: where it is written and what is written.  The invariant proofs use these
instead of looking at every transition.
-/
namespace Lm.Thpool

inductive Step (s : State) : Label → State → Prop
  | wLock {t} : s.pc t = .wLock → s.lockOwner = none → Step s ⟨t, .lock⟩ { s.goto t .wLoop with lockOwner := some t }
  | wLoop_wait {t} : s.pc t = .wLoop → s.tasks = [] ∧ s.shutdown = .no → Step s ⟨t, .qlen s.tasks.length⟩ (s.goto t .wWait)
  | wLoop_break {t} : s.pc t = .wLoop → ¬(s.tasks = [] ∧ s.shutdown = .no) → Step s ⟨t, .qlen s.tasks.length⟩ (s.goto t .wBreakChk)
  | wWait {t} : s.pc t = .wWait → Step s ⟨t, .wait⟩ { s.goto t .wWaiting with lockOwner := none, waiters := t :: s.waiters }
  | wSpurious {t} : s.pc t = .wWaiting → t ∈ s.waiters → Step s ⟨t, .spurious⟩ { s with waiters := s.waiters.erase t }
  | wReacq {t} : s.pc t = .wWaiting → t ∉ s.waiters → s.lockOwner = none →
      Step s ⟨t, .reacq⟩ { s.goto t .wLoop with lockOwner := some t }
  | wBreakChk_no {t} : s.pc t = .wBreakChk → s.shutdown = .no → Step s ⟨t, .tau⟩ (s.goto t .wDequeue)
  | wBreakChk_curr {t} : s.pc t = .wBreakChk → s.shutdown = .waitCurr → Step s ⟨t, .tau⟩ (s.goto t .wExitDec)
  | wBreakChk_all {t} : s.pc t = .wBreakChk → s.shutdown = .waitAll → Step s ⟨t, .tau⟩ (s.goto t .wBreakLen)
  | wBreakLen_exit {t} : s.pc t = .wBreakLen → s.tasks = [] → Step s ⟨t, .qlen s.tasks.length⟩ (s.goto t .wExitDec)
  | wBreakLen_deq {t} : s.pc t = .wBreakLen → s.tasks ≠ [] → Step s ⟨t, .qlen s.tasks.length⟩ (s.goto t .wDequeue)
  | wDequeue {t k rest} : s.pc t = .wDequeue → s.tasks = k :: rest →
      Step s ⟨t, .deq k⟩ { s.goto t .wUnlock with tasks := rest, cur := upd s.cur t k, task := upd s.task k ({ s.task k with runner := t }) }
  | wUnlock {t} : s.pc t = .wUnlock → Step s ⟨t, .unlock⟩ { s.goto t .wInc with lockOwner := none }
  | wInc {t} : s.pc t = .wInc → Step s ⟨t, .tau⟩ { s.goto t .wCall with running := s.running + 1 }
  | wCall {t} : s.pc t = .wCall →
      Step s ⟨t, .taskStart (s.cur t) (s.task (s.cur t)).arg⟩
        { s.goto t .wInTask with task := upd s.task (s.cur t) ({ s.task (s.cur t) with started := true, execCount := (s.task (s.cur t)).execCount + 1, ranWith := some (s.task (s.cur t)).arg }) }
  | wTaskEnd {t} : s.pc t = .wInTask →
      Step s ⟨t, .taskEnd (s.cur t)⟩ { s.goto t .wDec with task := upd s.task (s.cur t) ({ s.task (s.cur t) with finished := true }) }
  | wAddCall {t k a} : s.pc t = .wInTask → (s.task k).submitted = false →
      Step s ⟨t, .addCall k a⟩ { s.goto t .nLock with addK := upd s.addK t k, task := upd s.task k ({ s.task k with submitted := true, arg := a, subBy := t }) }
  | wDec {t} : s.pc t = .wDec → Step s ⟨t, .tau⟩ { s.goto t .wLock with running := s.running - 1 }
  | wExitDec_det {t} : s.pc t = .wExitDec → s.cfg.detached = true →
      Step s ⟨t, .tau⟩ { s.goto t .wExitBcast with alive := s.alive - 1 }
  | wExitDec_join {t} : s.pc t = .wExitDec → s.cfg.detached = false →
      Step s ⟨t, .tau⟩ { s.goto t .wExitUnlock with alive := s.alive - 1 }
  | wExitBcast {t} : s.pc t = .wExitBcast → Step s ⟨t, .broadcast⟩ { s.goto t .wExitUnlock with waiters := [] }
  | wExitUnlock {t} : s.pc t = .wExitUnlock → Step s ⟨t, .unlock⟩ { s.goto t .wRet with lockOwner := none }
  | wRet {t} : s.pc t = .wRet → Step s ⟨t, .exit⟩ (s.goto t .wDone)
  | sAddCall_new {t k a} : s.pc t = .none → t ≠ 0 → (s.task k).submitted = false →
      Step s ⟨t, .addCall k a⟩ { s.goto t .sLock with cur := upd s.cur t k, adding := t :: s.adding, task := upd s.task k ({ s.task k with submitted := true, arg := a, subBy := t }) }
  | sAddCall {t k a} : s.pc t = .sIdle → t ≠ 0 → (s.task k).submitted = false →
      Step s ⟨t, .addCall k a⟩ { s.goto t .sLock with cur := upd s.cur t k, adding := t :: s.adding, task := upd s.task k ({ s.task k with submitted := true, arg := a, subBy := t }) }
  | sLock {t} : s.pc t = .sLock → s.lockOwner = none → Step s ⟨t, .lock⟩ { s.goto t .sShutChk with lockOwner := some t }
  | sShutChk_lazy {t} : s.pc t = .sShutChk → s.shutdown = .no → s.cfg.isLazy = true → Step s ⟨t, .tau⟩ (s.goto t .sLazy0)
  | sShutChk_eager {t} : s.pc t = .sShutChk → s.shutdown = .no → s.cfg.isLazy = false → Step s ⟨t, .tau⟩ (s.goto t .sEnq)
  | sShutChk_shut {t} : s.pc t = .sShutChk → s.shutdown ≠ .no → Step s ⟨t, .tau⟩ (s.goto t .sPermUnlock)
  | sPermUnlock {t} : s.pc t = .sPermUnlock → Step s ⟨t, .unlock⟩ { s.goto t .sRetPerm with lockOwner := none }
  | sLazy0 {t} : s.pc t = .sLazy0 → Step s ⟨t, .tau⟩ { s.goto t .sLazy1 with rd := upd s.rd t s.running }
  | sLazy1_idle {t} : s.pc t = .sLazy1 → s.rd t < s.threads.length → Step s ⟨t, .tlen s.threads.length⟩ (s.goto t .sEnq)
  | sLazy1_busy {t} : s.pc t = .sLazy1 → ¬ s.rd t < s.threads.length → Step s ⟨t, .tlen s.threads.length⟩ (s.goto t .sLazy2)
  | sLazy2_room {t} : s.pc t = .sLazy2 → s.threads.length < s.cfg.maxThreads →
      Step s ⟨t, .tlen s.threads.length⟩ (s.goto t .sCreate)
  | sLazy2_full {t} : s.pc t = .sLazy2 → ¬ s.threads.length < s.cfg.maxThreads →
      Step s ⟨t, .tlen s.threads.length⟩ (s.goto t .sEnq)
  | sCreate {t j} : s.pc t = .sCreate → j ≠ 0 → s.pc j = .none →
      Step s ⟨t, .create j⟩ { s with pc := upd (upd s.pc j .wLock) t .sInsert, newTh := upd s.newTh t j, workers := j :: s.workers, pendBy := some t }
  | sCreateFail {t} : s.pc t = .sCreate → Step s ⟨t, .createFail⟩ (s.goto t .sFailUnlock)
  | sInsert {t} : s.pc t = .sInsert →
      Step s ⟨t, .tins (s.newTh t)⟩ { s.goto t .sEnq with threads := s.newTh t :: s.threads, alive := s.alive + 1, pendBy := none }
  | sFailUnlock {t} : s.pc t = .sFailUnlock → Step s ⟨t, .unlock⟩ { s.goto t .sRetFail with lockOwner := none }
  | sEnq {t} : s.pc t = .sEnq →
      Step s ⟨t, .enq (s.cur t)⟩ { s.goto t .sSignal with tasks := s.tasks ++ [s.cur t], task := upd s.task (s.cur t) ({ s.task (s.cur t) with accepted := true }) }
  | sSignalNone {t} : s.pc t = .sSignal → s.waiters = [] → Step s ⟨t, .signal none⟩ (s.goto t .sUnlock)
  | sSignal {t w} : s.pc t = .sSignal → w ∈ s.waiters →
      Step s ⟨t, .signal (some w)⟩ { s.goto t .sUnlock with waiters := s.waiters.erase w }
  | sUnlock {t} : s.pc t = .sUnlock → Step s ⟨t, .unlock⟩ { s.goto t .sRetOk with lockOwner := none }
  | sRetOk {t} : s.pc t = .sRetOk → Step s ⟨t, .addRet 0⟩ { s.goto t .sIdle with adding := s.adding.erase t }
  | sRetPerm {t} : s.pc t = .sRetPerm → Step s ⟨t, .addRet EPERM⟩ { s.goto t .sIdle with adding := s.adding.erase t }
  | sRetFail {t} : s.pc t = .sRetFail → Step s ⟨t, .addRet EAGAIN⟩ { s.goto t .sIdle with adding := s.adding.erase t }
  | nLock {t} : s.pc t = .nLock → s.lockOwner = none → Step s ⟨t, .lock⟩ { s.goto t .nShutChk with lockOwner := some t }
  | nShutChk_lazy {t} : s.pc t = .nShutChk → s.shutdown = .no → s.cfg.isLazy = true → Step s ⟨t, .tau⟩ (s.goto t .nLazy0)
  | nShutChk_eager {t} : s.pc t = .nShutChk → s.shutdown = .no → s.cfg.isLazy = false → Step s ⟨t, .tau⟩ (s.goto t .nEnq)
  | nShutChk_shut {t} : s.pc t = .nShutChk → s.shutdown ≠ .no → Step s ⟨t, .tau⟩ (s.goto t .nPermUnlock)
  | nPermUnlock {t} : s.pc t = .nPermUnlock → Step s ⟨t, .unlock⟩ { s.goto t .nRetPerm with lockOwner := none }
  | nLazy0 {t} : s.pc t = .nLazy0 → Step s ⟨t, .tau⟩ { s.goto t .nLazy1 with rd := upd s.rd t s.running }
  | nLazy1_idle {t} : s.pc t = .nLazy1 → s.rd t < s.threads.length → Step s ⟨t, .tlen s.threads.length⟩ (s.goto t .nEnq)
  | nLazy1_busy {t} : s.pc t = .nLazy1 → ¬ s.rd t < s.threads.length → Step s ⟨t, .tlen s.threads.length⟩ (s.goto t .nLazy2)
  | nLazy2_room {t} : s.pc t = .nLazy2 → s.threads.length < s.cfg.maxThreads →
      Step s ⟨t, .tlen s.threads.length⟩ (s.goto t .nCreate)
  | nLazy2_full {t} : s.pc t = .nLazy2 → ¬ s.threads.length < s.cfg.maxThreads →
      Step s ⟨t, .tlen s.threads.length⟩ (s.goto t .nEnq)
  | nCreate {t j} : s.pc t = .nCreate → j ≠ 0 → s.pc j = .none →
      Step s ⟨t, .create j⟩ { s with pc := upd (upd s.pc j .wLock) t .nInsert, newTh := upd s.newTh t j, workers := j :: s.workers, pendBy := some t }
  | nCreateFail {t} : s.pc t = .nCreate → Step s ⟨t, .createFail⟩ (s.goto t .nFailUnlock)
  | nInsert {t} : s.pc t = .nInsert →
      Step s ⟨t, .tins (s.newTh t)⟩ { s.goto t .nEnq with threads := s.newTh t :: s.threads, alive := s.alive + 1, pendBy := none }
  | nFailUnlock {t} : s.pc t = .nFailUnlock → Step s ⟨t, .unlock⟩ { s.goto t .nRetFail with lockOwner := none }
  | nEnq {t} : s.pc t = .nEnq →
      Step s ⟨t, .enq (s.addK t)⟩ { s.goto t .nSignal with tasks := s.tasks ++ [s.addK t], task := upd s.task (s.addK t) ({ s.task (s.addK t) with accepted := true }) }
  | nSignalNone {t} : s.pc t = .nSignal → s.waiters = [] → Step s ⟨t, .signal none⟩ (s.goto t .nUnlock)
  | nSignal {t w} : s.pc t = .nSignal → w ∈ s.waiters →
      Step s ⟨t, .signal (some w)⟩ { s.goto t .nUnlock with waiters := s.waiters.erase w }
  | nUnlock {t} : s.pc t = .nUnlock → Step s ⟨t, .unlock⟩ { s.goto t .nRetOk with lockOwner := none }
  | nRetOk {t} : s.pc t = .nRetOk → Step s ⟨t, .addRet 0⟩ (s.goto t .wInTask)
  | nRetPerm {t} : s.pc t = .nRetPerm → Step s ⟨t, .addRet EPERM⟩ (s.goto t .wInTask)
  | nRetFail {t} : s.pc t = .nRetFail → Step s ⟨t, .addRet EAGAIN⟩ (s.goto t .wInTask)
  | mNewCreate {t j} : s.pc t = .mNewCreate → j ≠ 0 → s.pc j = .none →
      Step s ⟨t, .create j⟩ { s with pc := upd (upd s.pc j .wLock) t .mNewInsert, newTh := upd s.newTh t j, workers := j :: s.workers, pendBy := some t }
  | mNewCreateFail {t} : s.pc t = .mNewCreate → Step s ⟨t, .createFail⟩ { s.goto t .fLock with mode := false, newFailed := true }
  | mNewInsert_more {t} : s.pc t = .mNewInsert → s.idx + 1 < s.cfg.maxThreads →
      Step s ⟨t, .tins (s.newTh t)⟩ { s.goto t .mNewCreate with threads := s.newTh t :: s.threads, alive := s.alive + 1, idx := s.idx + 1, pendBy := none }
  | mNewInsert_last {t} : s.pc t = .mNewInsert → ¬ s.idx + 1 < s.cfg.maxThreads →
      Step s ⟨t, .tins (s.newTh t)⟩ { s.goto t .mNewRet with threads := s.newTh t :: s.threads, alive := s.alive + 1, idx := s.idx + 1, pendBy := none }
  | mNewRet {t} : s.pc t = .mNewRet → Step s ⟨t, .newRet true⟩ (s.goto t .mIdle)
  | mIdle {t w} : s.pc t = .mIdle → Step s ⟨t, .freeCall w⟩ { s.goto t .fLock with mode := w }
  | fLock {t} : s.pc t = .fLock → s.lockOwner = none → Step s ⟨t, .lock⟩ { s.goto t .fSetShut with lockOwner := some t }
  | fSetShut_all {t} : s.pc t = .fSetShut → s.mode = true → Step s ⟨t, .tau⟩ { s.goto t .fBcast with shutdown := .waitAll }
  | fSetShut_curr {t} : s.pc t = .fSetShut → s.mode = false → Step s ⟨t, .tau⟩ { s.goto t .fBcast with shutdown := .waitCurr }
  | fBcast_det {t} : s.pc t = .fBcast → s.cfg.detached = true → Step s ⟨t, .broadcast⟩ { s.goto t .fAliveChk with waiters := [] }
  | fBcast_join {t} : s.pc t = .fBcast → s.cfg.detached = false → Step s ⟨t, .broadcast⟩ { s.goto t .fUnlock with waiters := [] }
  | fAliveChk_wait {t} : s.pc t = .fAliveChk → 0 < s.alive → Step s ⟨t, .tau⟩ (s.goto t .fWait)
  | fAliveChk_done {t} : s.pc t = .fAliveChk → ¬ 0 < s.alive → Step s ⟨t, .tau⟩ (s.goto t .fUnlock)
  | fWait {t} : s.pc t = .fWait → Step s ⟨t, .wait⟩ { s.goto t .fWaiting with lockOwner := none, waiters := t :: s.waiters }
  | fSpurious {t} : s.pc t = .fWaiting → t ∈ s.waiters → Step s ⟨t, .spurious⟩ { s with waiters := s.waiters.erase t }
  | fReacq {t} : s.pc t = .fWaiting → t ∉ s.waiters → s.lockOwner = none →
      Step s ⟨t, .reacq⟩ { s.goto t .fAliveChk with lockOwner := some t }
  | fUnlock_det {t} : s.pc t = .fUnlock → s.cfg.detached = true → Step s ⟨t, .unlock⟩ { s.goto t .fCondDestroy with lockOwner := none }
  | fUnlock_join {t} : s.pc t = .fUnlock → s.cfg.detached = false → Step s ⟨t, .unlock⟩ { s.goto t .fJoinInit with lockOwner := none }
  | fJoinInit {t} : s.pc t = .fJoinInit → Step s ⟨t, .tau⟩ { s.goto t .fJoin with joinRest := s.threads }
  | fJoin {t j rest} : s.pc t = .fJoin → s.joinRest = j :: rest → s.pc j = .wDone → Step s ⟨t, .join j⟩ { s with joinRest := rest }
  | fJoinEnd {t} : s.pc t = .fJoin → s.joinRest = [] → Step s ⟨t, .tau⟩ (s.goto t .fCondDestroy)
  | fCondDestroy {t} : s.pc t = .fCondDestroy → Step s ⟨t, .destroyCond⟩ { s.goto t .fMutDestroy with condDestroyed := true }
  | fMutDestroy {t} : s.pc t = .fMutDestroy → Step s ⟨t, .destroyMutex⟩ { s.goto t .fQueueFree with mutexDestroyed := true }
  | fQueueFree {t} : s.pc t = .fQueueFree →
      Step s ⟨t, .qfree s.tasks⟩ { s.goto t .fListFree with tasks := [], task := fun k => if k ∈ s.tasks then { s.task k with discarded := true } else s.task k }
  | fListFree {t} : s.pc t = .fListFree → Step s ⟨t, .tfree⟩ { s.goto t .fFreePool with threads := [] }
  | fFreePool {t} : s.pc t = .fFreePool → Step s ⟨t, .freePool⟩ { s.goto t .fRet with poolFreed := true }
  | fRet {t} : s.pc t = .fRet → s.newFailed = false → Step s ⟨t, .freeRet⟩ (s.goto t .mDone)
  | fRetNew {t} : s.pc t = .fRet → s.newFailed = true → Step s ⟨t, .newRet false⟩ (s.goto t .mDone)

theorem Step.of_step {s s' : State} {l : Label} (h : step s l = some s') : Step s l s' := by
  obtain ⟨t, a⟩ := l
  revert h
  fun_cases step s ⟨t, a⟩ <;> intro h <;> cases h
  all_goals
    simp +zetaDelta only at *
    try rename_i hg; obtain ⟨_, _⟩ : _ ∧ _ := hg
    subst_vars
    -- a successor that depends on a test (`if`, `match`) has one constructor per outcome
    repeat' split
    all_goals first
      -- four constructors that `constructor` would confuse with an earlier one
      | exact .fSpurious ‹_› ‹_› | exact .sLazy2_full ‹_› ‹_› | exact .nLazy2_full ‹_› ‹_› | exact .sAddCall ‹_› ‹_› ‹_›
      | (constructor <;> first | assumption | exact Bool.eq_false_iff.mpr ‹_›)

variable {s s' : State} {l : Label} {u : Tid}

theorem Step.cfg (h : Step s l s') : s'.cfg = s.cfg := by cases h <;> rfl

theorem Step.pc_frame (h : Step s l s') (hu : u ≠ l.tid) :
    s'.pc u = s.pc u ∨ (s.pc u = .none ∧ s'.pc u = .wLock ∧ l.act = .create u) := by
  cases h
  case sCreate j _ _ _ | nCreate j _ _ _ | mNewCreate j _ _ _ =>
    by_cases hj : u = j
    · subst hj; exact .inr ⟨‹_›, by simp [upd_apply, hu], rfl⟩
    · exact .inl (by simp [upd_apply, hu, hj])
  all_goals first | exact .inl (upd_other _ _ _ _ hu) | exact .inl rfl

theorem Step.pc_other (h : Step s l s') (hu : u ≠ l.tid) (hc : s'.pc u ≠ .wLock) : s'.pc u = s.pc u :=
  (h.pc_frame hu).resolve_right fun e => hc e.2.1

/-- `hc`: the one way a step changes the program counter of another thread is `pthread_create`, `.none` to `.wLock` -/
theorem Step.cls_other {α : Type} (h : Step s l s') (hu : u ≠ l.tid) (c : Pc → α) (hc : c .none = c .wLock) :
    c (s'.pc u) = c (s.pc u) := by
  rcases h.pc_frame hu with e | ⟨e, e', _⟩
  · rw [e]
  · rw [e, e', hc]

theorem Step.pc_zero (h : Step s l s') (h0 : l.tid ≠ 0) : s'.pc 0 = s.pc 0 := by
  rcases h.pc_frame (Ne.symm h0) with e | ⟨_, _, e⟩
  · exact e
  · cases h <;> cases e <;> contradiction

/-- `pthread_create` is called by `add_threads` only -/
theorem Step.create_pc {j : Tid} (h : Step s l s') (ha : l.act = .create j) :
    s.pc l.tid = .sCreate ∨ s.pc l.tid = .nCreate ∨ s.pc l.tid = .mNewCreate := by
  cases h <;> first | exact .inl ‹_› | exact .inr (.inl ‹_›) | exact .inr (.inr ‹_›) | cases ha

theorem Step.isM_pc (h : Step s l s') (u : Tid) : isM (s'.pc u) = isM (s.pc u) := by
  by_cases ht : u = l.tid
  · subst ht
    cases h <;> simp only [State.goto, upd_same, *] <;> rfl
  · exact h.cls_other ht isM rfl

theorem Step.isW_self (h : Step s l s') : isW (s'.pc l.tid) = isW (s.pc l.tid) := by
  cases h <;> simp only [State.goto, upd_same, *] <;> rfl

theorem Step.isW_frame (h : Step s l s') (hu : l.act ≠ .create u) : isW (s'.pc u) = isW (s.pc u) := by
  by_cases ht : u = l.tid
  · exact ht ▸ h.isW_self
  · exact congrArg isW ((h.pc_frame ht).resolve_right fun e => hu e.2.2)

theorem Step.ph_mono (h : Step s l s') : ph (s.pc 0) ≤ ph (s'.pc 0) := by
  by_cases h0 : l.tid = 0
  · obtain ⟨t, a⟩ := l
    obtain rfl : t = 0 := h0
    cases h
    all_goals simp only [State.goto, upd_same, *] <;> decide
  · exact Nat.le_of_eq (congrArg ph (h.pc_zero h0)).symm

theorem Step.gone_next (h : Step s l s') (hg : gone (s.pc l.tid) = true) : s.pc l.tid = .wRet ∧ s'.pc l.tid = .wDone := by
  cases h <;> (try simp only [*] at hg) <;> try contradiction
  case wRet hpc => exact ⟨hpc, upd_same ..⟩

theorem Step.wDone_stays (h : Step s l s') (hd : s.pc u = .wDone) : s'.pc u = .wDone := by
  by_cases ht : u = l.tid
  · subst ht
    have := (h.gone_next (by simp [hd])).1
    rw [hd] at this; cases this
  · rcases h.pc_frame ht with e | ⟨e, _⟩
    · rw [e, hd]
    · rw [hd] at e; cases e

/-- `m_thpool_free` gets to the teardown from the unlock if the workers are detached, else from the end of the join loop … -/
theorem Step.to_teardown (h : Step s l s') (hq : ¬ 10 ≤ ph (s.pc l.tid)) (hp : 10 ≤ ph (s'.pc l.tid)) :
    (s.pc l.tid = .fUnlock ∧ s.cfg.detached = true) ∨ (s.pc l.tid = .fJoin ∧ s.joinRest = []) := by
  cases h <;> simp only [State.goto, upd_same, *] at hp hq <;> try contradiction
  case fUnlock_det hpc hd => exact .inl ⟨hpc, hd⟩
  case fJoinEnd hpc hj => exact .inr ⟨hpc, hj⟩

/-- … and to that unlock from the broadcast if the workers are joinable, else when it has seen `alive == 0` -/
theorem Step.to_fUnlock (h : Step s l s') (hp : s'.pc l.tid = .fUnlock) :
    (s.pc l.tid = .fBcast ∧ s.cfg.detached = false) ∨ (s.pc l.tid = .fAliveChk ∧ s.alive = 0) := by
  cases h <;> simp only [State.goto, upd_same, *] at hp <;> try contradiction
  case fBcast_join hpc hd => exact .inl ⟨hpc, hd⟩
  case fAliveChk_done hpc ha => exact .inr ⟨hpc, Nat.eq_zero_of_not_pos ha⟩

/-- the mutex is taken only when it is free (`pthread_mutex_lock`, the end of `pthread_cond_wait`) and given up only by
its holder (`pthread_mutex_unlock`, the start of `pthread_cond_wait`) -/
theorem Step.lock_cases (h : Step s l s') :
    (s'.lockOwner = s.lockOwner ∧ holds (s'.pc l.tid) = holds (s.pc l.tid)) ∨
    (s.lockOwner = none ∧ s'.lockOwner = some l.tid ∧ holds (s'.pc l.tid) = true) ∨
    (holds (s.pc l.tid) = true ∧ s'.lockOwner = none ∧ holds (s'.pc l.tid) = false) := by
  cases h
  case wLock | wReacq | sLock | nLock | fLock | fReacq =>
    exact .inr (.inl ⟨‹_›, rfl, by simp only [State.goto, upd_same] <;> rfl⟩)
  case wWait | wUnlock | wExitUnlock | sPermUnlock | sFailUnlock | sUnlock | nPermUnlock | nFailUnlock | nUnlock | fWait
      | fUnlock_det | fUnlock_join =>
    exact .inr (.inr ⟨by simp only [*] <;> rfl, rfl, by simp only [State.goto, upd_same] <;> rfl⟩)
  all_goals exact .inl ⟨rfl, by simp only [State.goto, upd_same, *] <;> rfl⟩

/-- `pthread_cond_wait` puts the caller into the wait set of `notify`; a signal or a spurious wake-up takes one thread
out, a broadcast all -/
theorem Step.waiters_cases (h : Step s l s') :
    s'.waiters = s.waiters ∨ s'.waiters = [] ∨ (∃ w, s'.waiters = s.waiters.erase w) ∨
    (s'.waiters = l.tid :: s.waiters ∧ (s.pc l.tid = .wWait ∨ s.pc l.tid = .fWait) ∧ waitingPc (s'.pc l.tid) = true) := by
  cases h
  case wWait hp => exact .inr (.inr (.inr ⟨rfl, .inl hp, by simp only [State.goto, upd_same] <;> rfl⟩))
  case fWait hp => exact .inr (.inr (.inr ⟨rfl, .inr hp, by simp only [State.goto, upd_same] <;> rfl⟩))
  case wSpurious | fSpurious | sSignal | nSignal => exact .inr (.inr (.inl ⟨_, rfl⟩))
  case wExitBcast | fBcast_det | fBcast_join => exact .inr (.inl rfl)
  all_goals exact .inl rfl

theorem Step.waiters_sub (h : Step s l s') (hu : u ∈ s'.waiters) :
    u ∈ s.waiters ∨ (u = l.tid ∧ (s.pc u = .wWait ∨ s.pc u = .fWait)) := by
  rcases h.waiters_cases with e | e | ⟨w, e⟩ | ⟨e, hp, _⟩ <;> rw [e] at hu
  · exact .inl hu
  · cases hu
  · exact .inl (List.mem_of_mem_erase hu)
  · rcases List.mem_cons.mp hu with rfl | hu
    · exact .inr ⟨rfl, hp⟩
    · exact .inl hu

theorem Step.exitBcast_waiters (h : Step s l s') (hb : s.pc l.tid = .wExitBcast) : s'.waiters = [] := by
  cases h <;> first | rfl | (simp only [*] at hb; contradiction)

/-- `shutdown` is written by `wait_pool` only (`fSetShut`), and never to `SHUTDOWN_NO`; that step, and no other, takes
the moving thread from phase 4 to phase 5 -/
theorem Step.shutdown_cases (h : Step s l s') :
    (s'.shutdown = s.shutdown ∧ (ph (s'.pc l.tid) ≤ 4 ↔ ph (s.pc l.tid) ≤ 4)) ∨
    (s.pc l.tid = .fSetShut ∧ s'.shutdown = (if s.mode then .waitAll else .waitCurr) ∧ s'.mode = s.mode ∧
      5 ≤ ph (s'.pc l.tid)) := by
  cases h
  case fSetShut_all hp hm | fSetShut_curr hp hm =>
    exact .inr ⟨hp, by rw [hm]; rfl, rfl, by simp only [State.goto, upd_same] <;> decide⟩
  all_goals exact .inl ⟨rfl, by simp only [State.goto, upd_same, *] <;> decide⟩

theorem Step.shutdown_ne_no (h : Step s l s') (hs : s.shutdown ≠ .no) : s'.shutdown ≠ .no := by
  rcases h.shutdown_cases with ⟨e, _⟩ | ⟨_, e, _⟩ <;> rw [e]
  · exact hs
  · split <;> nofun

/-- `mode` (`wait_all`) is chosen where thread 0 enters `m_thpool_free` -/
theorem Step.mode_cases (h : Step s l s') : s'.mode = s.mode ∨ s'.pc l.tid = .fLock := by
  cases h <;> first | exact .inl rfl | exact .inr (upd_same _ _ _)

theorem Step.idx_cases (h : Step s l s') : s'.idx = s.idx ∨ (s.pc l.tid = .mNewInsert ∧ s'.idx = s.idx + 1) := by
  cases h <;> first | exact .inl rfl | exact .inr ⟨‹_›, rfl⟩

theorem Step.main_frame (h : Step s l s') (hm : isM (s.pc l.tid) = false) :
    s'.mode = s.mode ∧ s'.joinRest = s.joinRest := by
  cases h <;> first | exact ⟨rfl, rfl⟩ | simp [*] at hm

theorem Step.flags_cases (h : Step s l s') :
    (s'.condDestroyed = s.condDestroyed ∨ (s.pc l.tid = .fCondDestroy ∧ s'.pc l.tid = .fMutDestroy)) ∧
    (s'.mutexDestroyed = s.mutexDestroyed ∨ (s.pc l.tid = .fMutDestroy ∧ s'.pc l.tid = .fQueueFree)) ∧
    (s'.poolFreed = s.poolFreed ∨ (s.pc l.tid = .fFreePool ∧ s'.pc l.tid = .fRet)) := by
  cases h
  case fCondDestroy hp => exact ⟨.inr ⟨hp, upd_same ..⟩, .inl rfl, .inl rfl⟩
  case fMutDestroy hp => exact ⟨.inl rfl, .inr ⟨hp, upd_same ..⟩, .inl rfl⟩
  case fFreePool hp => exact ⟨.inl rfl, .inl rfl, .inr ⟨hp, upd_same ..⟩⟩
  all_goals exact ⟨.inl rfl, .inl rfl, .inl rfl⟩

/-- a call of `m_thpool_add` from outside a task puts the caller into `adding`, its return takes it out, and no other step
moves a thread into or out of that function -/
theorem Step.adding_cases (h : Step s l s') :
    (s'.adding = s.adding ∧ isS (s'.pc l.tid) = isS (s.pc l.tid)) ∨
    (s'.adding = l.tid :: s.adding ∧ isS (s'.pc l.tid) = true ∧ (s.pc l.tid = .none ∨ s.pc l.tid = .sIdle) ∧
      ∃ k a, l.act = .addCall k a) ∨
    (s'.adding = s.adding.erase l.tid ∧ isS (s'.pc l.tid) = false) := by
  cases h
  case sAddCall_new hp _ _ => exact .inr (.inl ⟨rfl, by simp only [State.goto, upd_same] <;> rfl, .inl hp, _, _, rfl⟩)
  case sAddCall hp _ _ => exact .inr (.inl ⟨rfl, by simp only [State.goto, upd_same] <;> rfl, .inr hp, _, _, rfl⟩)
  case sRetOk | sRetPerm | sRetFail => exact .inr (.inr ⟨rfl, by simp only [State.goto, upd_same] <;> rfl⟩)
  all_goals exact .inl ⟨rfl, by simp only [State.goto, upd_same, *] <;> rfl⟩

/-! `add_threads` is `pthread_create` followed by `m_list_insert`.  The ghost fields `workers` and `pendBy`, the local
`newTh` and `pool->threads` are written there, `threads` also by the final `m_list_free`.  The three records say what
one step does to them and to the program counters between the two statements. -/

/-- `pthread_create`: thread `j` starts, and is pending until its creator has put it into `pool->threads` -/
structure Creates (s : State) (l : Label) (s' : State) (j : Tid) : Prop where
  act : l.act = .create j
  pc : s.pc l.tid = .sCreate ∨ s.pc l.tid = .nCreate ∨ s.pc l.tid = .mNewCreate
  pc' : s'.pc l.tid = .sInsert ∨ s'.pc l.tid = .nInsert ∨ s'.pc l.tid = .mNewInsert
  fresh : s.pc j = .none
  started : s'.pc j = .wLock
  ne : j ≠ l.tid
  workers : s'.workers = j :: s.workers
  pendBy : s'.pendBy = some l.tid
  newTh : s'.newTh = upd s.newTh l.tid j
  threads : s'.threads = s.threads

/-- `m_list_insert` of the pending thread -/
structure Inserts (s : State) (l : Label) (s' : State) : Prop where
  act : l.act = .tins (s.newTh l.tid)
  pc : s.pc l.tid = .sInsert ∨ s.pc l.tid = .nInsert ∨ s.pc l.tid = .mNewInsert
  pc' : ¬(s'.pc l.tid = .sInsert ∨ s'.pc l.tid = .nInsert ∨ s'.pc l.tid = .mNewInsert)
  workers : s'.workers = s.workers
  pendBy : s'.pendBy = none
  threads : s'.threads = s.newTh l.tid :: s.threads

/-- any other statement -/
structure NoAdd (s : State) (l : Label) (s' : State) : Prop where
  act : ∀ j, l.act ≠ .create j
  pc : ¬(s.pc l.tid = .sInsert ∨ s.pc l.tid = .nInsert ∨ s.pc l.tid = .mNewInsert)
  pc' : ¬(s'.pc l.tid = .sInsert ∨ s'.pc l.tid = .nInsert ∨ s'.pc l.tid = .mNewInsert)
  workers : s'.workers = s.workers
  pendBy : s'.pendBy = s.pendBy
  newTh : s'.newTh = s.newTh
  threads : s'.threads = s.threads ∨ (s.pc l.tid = .fListFree ∧ s'.pc l.tid = .fFreePool ∧ s'.threads = [])

theorem Step.addThreads (h : Step s l s') : (∃ j, Creates s l s' j) ∨ Inserts s l s' ∨ NoAdd s l s' := by
  cases h
  case sCreate j hp _ hj | nCreate j hp _ hj | mNewCreate j hp _ hj =>
    have ne : j ≠ _ := fun e => by rw [e, hp] at hj; cases hj
    exact .inl ⟨j, rfl, by simp [hp], by simp, hj, (upd_other _ _ _ _ ne).trans (upd_same ..), ne, rfl, rfl, rfl, rfl⟩
  case sInsert | nInsert | mNewInsert_more | mNewInsert_last =>
    exact .inr (.inl ⟨rfl, by simp [*], by simp [State.goto], rfl, rfl, rfl⟩)
  case fListFree =>
    exact .inr (.inr ⟨nofun, by simp [*], by simp [State.goto], rfl, rfl, rfl, .inr ⟨‹_›, upd_same .., rfl⟩⟩)
  all_goals exact .inr (.inr ⟨nofun, by simp [*], by simp [State.goto, *], rfl, rfl, rfl, .inl rfl⟩)

theorem Step.threads_ne_nil (h : Step s l s') (hf : s.pc l.tid ≠ .fListFree) (hn : s.threads ≠ []) :
    s'.threads ≠ [] := by
  rcases h.addThreads with ⟨_, c⟩ | i | n
  · rwa [c.threads]
  · rw [i.threads]; exact List.cons_ne_nil _ _
  · rcases n.threads with e | ⟨hc, _⟩
    · rwa [e]
    · exact (hf hc).elim

/-- `add_threads` inserts the thread it has created into `pool->threads` and counts it in `pool->alive`, a worker that
leaves its loop counts itself out, `m_list_free` empties the list; no other step takes the moving thread across its
`pool->alive--` -/
theorem Step.alive_cases (h : Step s l s') :
    (s'.threads = s.threads ∧ s'.alive = s.alive ∧ beforeDec (s'.pc l.tid) = beforeDec (s.pc l.tid)) ∨
    (s.pc l.tid = .wExitDec ∧ s'.threads = s.threads ∧ s'.alive = s.alive - 1 ∧
      s'.pc l.tid = if s.cfg.detached then .wExitBcast else .wExitUnlock) ∨
    ((s.pc l.tid = .sInsert ∨ s.pc l.tid = .nInsert ∨ s.pc l.tid = .mNewInsert) ∧ s'.threads = s.newTh l.tid :: s.threads ∧
      s'.alive = s.alive + 1 ∧ beforeDec (s'.pc l.tid) = beforeDec (s.pc l.tid)) ∨
    (s.pc l.tid = .fListFree ∧ s'.pc l.tid = .fFreePool ∧ s'.threads = []) := by
  cases h
  case fListFree hpc => exact .inr (.inr (.inr ⟨hpc, upd_same .., rfl⟩))
  case wExitDec_det hpc hd | wExitDec_join hpc hd => exact .inr (.inl ⟨hpc, rfl, rfl, by simp [State.goto, hd]⟩)
  case sInsert hp => exact .inr (.inr (.inl ⟨.inl hp, rfl, rfl, by simp [State.goto, hp]⟩))
  case nInsert hp => exact .inr (.inr (.inl ⟨.inr (.inl hp), rfl, rfl, by simp [State.goto, hp]⟩))
  case mNewInsert_more hp _ | mNewInsert_last hp _ => exact .inr (.inr (.inl ⟨.inr (.inr hp), rfl, rfl, by simp [State.goto, hp]⟩))
  all_goals exact .inl ⟨rfl, rfl, by simp [State.goto, *]⟩

theorem Step.tasks_cases (h : Step s l s') :
    s'.tasks = s.tasks ∨ (s.pc l.tid = .wDequeue ∧ ∃ k, s.tasks = k :: s'.tasks) ∨
    (s.pc l.tid = .sEnq ∧ s'.tasks = s.tasks ++ [s.cur l.tid]) ∨ (s.pc l.tid = .nEnq ∧ s'.tasks = s.tasks ++ [s.addK l.tid]) ∨
    (s.pc l.tid = .fQueueFree ∧ s'.tasks = []) := by
  cases h
  case wDequeue hp ht => exact .inr (.inl ⟨hp, _, ht⟩)
  case sEnq hp => exact .inr (.inr (.inl ⟨hp, rfl⟩))
  case nEnq hp => exact .inr (.inr (.inr (.inl ⟨hp, rfl⟩)))
  case fQueueFree hp => exact .inr (.inr (.inr (.inr ⟨hp, rfl⟩)))
  all_goals exact .inl rfl

/-- Where the ghost record of task `k` is written, and what the same step does to the queue.  A task whose record is not
written neither enters nor leaves the queue. -/
inductive TaskWrite (s : State) (l : Label) (s' : State) (k : TaskId) : Prop
  | same : s'.task k = s.task k → (k ∈ s'.tasks ↔ k ∈ s.tasks) → TaskWrite s l s' k
  | deq : s'.task k = { s.task k with runner := l.tid } → s.tasks = k :: s'.tasks → s'.pc l.tid = .wUnlock →
      s'.cur l.tid = k → TaskWrite s l s' k
  | call : s'.task k = { s.task k with started := true, execCount := (s.task k).execCount + 1, ranWith := some (s.task k).arg } →
      s.pc l.tid = .wCall → k = s.cur l.tid → s'.tasks = s.tasks → s'.pc l.tid = .wInTask → s'.cur l.tid = k → TaskWrite s l s' k
  | ret : s'.task k = { s.task k with finished := true } → s.pc l.tid = .wInTask → k = s.cur l.tid → s'.tasks = s.tasks →
      TaskWrite s l s' k
  | submit : (∃ a, s'.task k = { s.task k with submitted := true, arg := a, subBy := l.tid }) → (s.task k).submitted = false →
      s'.tasks = s.tasks → TaskWrite s l s' k
  | enq : s'.task k = { s.task k with accepted := true } →
      (s.pc l.tid = .sEnq ∧ k = s.cur l.tid ∨ s.pc l.tid = .nEnq ∧ k = s.addK l.tid) → s'.tasks = s.tasks ++ [k] → TaskWrite s l s' k
  | discard : s'.task k = { s.task k with discarded := true } → k ∈ s.tasks → s'.tasks = [] → s.pc l.tid = .fQueueFree →
      s'.pc l.tid = .fListFree → TaskWrite s l s' k

theorem Step.task_cases (h : Step s l s') (k : TaskId) : TaskWrite s l s' k := by
  cases h
  case wDequeue t k0 rest _ ht =>
    by_cases hk : k = k0
    · subst hk; exact .deq (upd_same ..) ht (upd_same ..) (upd_same ..)
    · exact .same (upd_other _ _ _ _ hk) (by simp [ht, hk])
  case wCall t hp =>
    by_cases hk : k = s.cur t
    · subst hk; exact .call (upd_same ..) hp rfl rfl (upd_same ..) rfl
    · exact .same (upd_other _ _ _ _ hk) .rfl
  case wTaskEnd t hp =>
    by_cases hk : k = s.cur t
    · subst hk; exact .ret (upd_same ..) hp rfl rfl
    · exact .same (upd_other _ _ _ _ hk) .rfl
  case wAddCall t k0 a _ hs | sAddCall_new t k0 a _ _ hs | sAddCall t k0 a _ _ hs =>
    by_cases hk : k = k0
    · subst hk; exact .submit ⟨a, upd_same ..⟩ hs rfl
    · exact .same (upd_other _ _ _ _ hk) .rfl
  case sEnq t hp =>
    by_cases hk : k = s.cur t
    · subst hk; exact .enq (upd_same ..) (.inl ⟨hp, rfl⟩) rfl
    · exact .same (upd_other _ _ _ _ hk) (by simp [hk])
  case nEnq t hp =>
    by_cases hk : k = s.addK t
    · subst hk; exact .enq (upd_same ..) (.inr ⟨hp, rfl⟩) rfl
    · exact .same (upd_other _ _ _ _ hk) (by simp [hk])
  case fQueueFree t hp =>
    by_cases hk : k ∈ s.tasks
    · exact .discard (if_pos hk) hk rfl hp (upd_same ..)
    · exact .same (if_neg hk) (by simp [hk])
  all_goals exact .same rfl .rfl

theorem Step.cur_other (h : Step s l s') (hu : u ≠ l.tid) : s'.cur u = s.cur u := by
  cases h <;> first | rfl | exact upd_other _ _ _ _ hu

theorem Step.addK_other (h : Step s l s') (hu : u ≠ l.tid) : s'.addK u = s.addK u := by
  cases h <;> first | rfl | exact upd_other _ _ _ _ hu

theorem Step.held_next (h : Step s l s') (hu : held (s.pc u) = true) :
    (held (s'.pc u) = true ∧ s'.cur u = s.cur u) ∨ (u = l.tid ∧ (s'.task (s.cur u)).started = true) := by
  by_cases ht : u = l.tid
  · subst ht
    cases h <;> simp only [*] at hu <;> try contradiction
    case wUnlock | wInc => exact .inl ⟨by simp [State.goto], rfl⟩
    case wCall => exact .inr ⟨rfl, by simp⟩
  · exact .inl ⟨by rwa [h.cls_other ht held rfl], h.cur_other ht⟩

theorem Step.inTask_next (h : Step s l s') (hu : inTask (s.pc u) = true) :
    (inTask (s'.pc u) = true ∧ s'.cur u = s.cur u) ∨ (u = l.tid ∧ (s'.task (s.cur u)).finished = true) := by
  by_cases ht : u = l.tid
  · subst ht
    cases h <;> simp only [*] at hu <;> try contradiction
    case wTaskEnd => exact .inr ⟨rfl, by simp⟩
    all_goals exact .inl ⟨by simp [State.goto], rfl⟩
  · exact .inl ⟨by rwa [h.cls_other ht inTask rfl], h.cur_other ht⟩

theorem holds_role (p : Pc) (h : holds p = true) : isW p = true ∨ isS p = true ∨ isM p = true := by
  cases p <;> simp_all

theorem not_holds_of_gone (p : Pc) (h : gone p = true) : holds p = false := by
  cases p <;> simp_all

theorem not_isM_of_isS (p : Pc) (h : isS p = true) : isM p = false := by
  cases p <;> first | rfl | cases h

theorem pastChk_role (p : Pc) (h : pastChk p = true) : holds p = true ∧ (isS p = true ∨ inTask p = true) := by
  cases p <;> simp_all

theorem beforeDec_of (p : Pc) (h1 : isW p = true) (h2 : exiting p = false) : beforeDec p = true := by
  cases p <;> simp_all

theorem isW_not_isM (p : Pc) (h : isW p = true) : isM p = false := by
  cases p <;> simp_all

theorem beforeDec_isW (p : Pc) (h1 : beforeDec p = true) : isW p = true := by
  cases p <;> simp_all

theorem gone_of (p : Pc) (h1 : isW p = true) (h2 : beforeDec p = false) (h3 : holds p = false) : gone p = true := by
  cases p <;> simp_all

theorem inTask_isW (p : Pc) (h : inTask p = true) : isW p = true := by cases p <;> simp_all

theorem inTask_not_gone (p : Pc) (h : inTask p = true) : gone p = false := by cases p <;> simp_all

theorem held_isW (p : Pc) (h : held p = true) : isW p = true := by cases p <;> simp_all

theorem held_not_gone (p : Pc) (h : held p = true) : gone p = false := by cases p <;> simp_all

end Lm.Thpool
