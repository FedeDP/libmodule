import Lm.Inv.ThpoolInv
/-!
Preservation of the invariants about worker threads and `pool->threads`: those about the window between
`pthread_create` and `m_list_insert` in `add_threads` (`Step.addThreads` says what the two statements write, and that
nothing else writes these fields), then the number of worker threads and `pool->threads` being non-empty.
-/
namespace Lm.Thpool
variable {s s' : State} {l : Label} {u : Tid}

theorem workersIff_step (hi : Inv s) (h : Step s l s') : ∀ u, u ∈ s'.workers ↔ isW (s'.pc u) = true := by
  intro u
  rcases h.addThreads with ⟨j, c⟩ | i | n
  · rw [c.workers, List.mem_cons]
    by_cases uj : u = j
    · simp [uj, c.started]
    · rw [h.isW_frame (by rw [c.act]; exact fun e => uj (Act.create.inj e).symm), ← hi.workersIff u]
      simp [uj]
  · rw [i.workers, h.isW_frame (by rw [i.act]; nofun)]; exact hi.workersIff u
  · rw [n.workers, h.isW_frame (n.act u)]; exact hi.workersIff u

theorem workersNodup_step (hi : Inv s) (h : Step s l s') : s'.workers.Nodup := by
  rcases h.addThreads with ⟨j, c⟩ | i | n
  · -- the new thread did not exist
    rw [c.workers]
    refine List.nodup_cons.mpr ⟨fun hm => ?_, hi.workersNodup⟩
    have := (hi.workersIff j).mp hm
    simp [c.fresh] at this
  · rw [i.workers]; exact hi.workersNodup
  · rw [n.workers]; exact hi.workersNodup

/-- nobody else is between `pthread_create` and `m_list_insert` when a thread is about to create one: `add_threads` is
run under the mutex, or by `m_thpool_new` before anybody can call `m_thpool_add` -/
theorem pend_none_of_create (hi : Inv s) (ht : s.pc u = .sCreate ∨ s.pc u = .nCreate ∨ s.pc u = .mNewCreate) :
    s.pendBy = none := by
  cases hp : s.pendBy with
  | none => rfl
  | some c =>
    have hc := (hi.pendPc c).mp hp
    have : u = c := by
      rcases addThreads_role hi (u := u) (by rcases ht with h | h | h <;> simp [h]) with ⟨a, b, -⟩ | ⟨a, b⟩ <;>
        rcases addThreads_role hi (u := c) (by rcases hc with h | h | h <;> simp [h]) with ⟨a', b', -⟩ | ⟨a', b'⟩
      · exact holder_unique hi a a'
      · omega
      · omega
      · rw [a, a']
    subst this
    rcases ht with h | h | h <;> simp [h] at hc

theorem pend_of_insert (hi : Inv s) (i : Inserts s l s') :
    (∀ u, u ∈ s.workers → u = s.newTh l.tid ∨ u ∈ s.threads) ∧ s.newTh l.tid ∉ s.threads ∧ s.newTh l.tid ∈ s.workers :=
  hi.pendSome _ ((hi.pendPc _).mpr i.pc)

theorem threadsNodup_step (hi : Inv s) (h : Step s l s') : s'.threads.Nodup := by
  rcases h.addThreads with ⟨j, c⟩ | i | n
  · rw [c.threads]; exact hi.threadsNodup
  · rw [i.threads]; exact List.nodup_cons.mpr ⟨(pend_of_insert hi i).2.1, hi.threadsNodup⟩
  · rcases n.threads with e | ⟨-, -, e⟩ <;> rw [e]
    · exact hi.threadsNodup
    · exact List.nodup_nil

theorem thrSub_step (hi : Inv s) (h : Step s l s') : ∀ u, u ∈ s'.threads → u ∈ s'.workers := by
  intro u hu
  rcases h.addThreads with ⟨j, c⟩ | i | n
  · rw [c.threads] at hu; rw [c.workers]
    exact List.mem_cons_of_mem _ (hi.thrSub u hu)
  · rw [i.threads] at hu; rw [i.workers]
    rcases List.mem_cons.mp hu with rfl | hu
    · exact (pend_of_insert hi i).2.2
    · exact hi.thrSub u hu
  · rw [n.workers]
    rcases n.threads with e | ⟨-, -, e⟩ <;> rw [e] at hu
    · exact hi.thrSub u hu
    · cases hu

theorem pendPc_step (hi : Inv s) (h : Step s l s') :
    ∀ c, s'.pendBy = some c ↔ (s'.pc c = .sInsert ∨ s'.pc c = .nInsert ∨ s'.pc c = .mNewInsert) := by
  intro c
  by_cases ht : c = l.tid
  · -- the creator enters the window by `pthread_create` and leaves it by `m_list_insert`
    subst ht
    rcases h.addThreads with ⟨j, cr⟩ | i | n
    · rw [cr.pendBy]; exact ⟨fun _ => cr.pc', fun _ => rfl⟩
    · rw [i.pendBy]; exact ⟨nofun, fun e => (i.pc' e).elim⟩
    · rw [n.pendBy, hi.pendPc]; exact ⟨fun e => (n.pc e).elim, fun e => (n.pc' e).elim⟩
  · -- another thread stays where it is (a new one is not in the window), and if it is in the window `l.tid` is not in
    -- `add_threads`
    have hpc : (s'.pc c = .sInsert ∨ s'.pc c = .nInsert ∨ s'.pc c = .mNewInsert) ↔
        (s.pc c = .sInsert ∨ s.pc c = .nInsert ∨ s.pc c = .mNewInsert) := by
      rcases h.pc_frame ht with e | ⟨e0, e1, -⟩
      · rw [e]
      · simp [e0, e1]
    rw [hpc, ← hi.pendPc c]
    rcases h.addThreads with ⟨j, cr⟩ | i | n
    · rw [cr.pendBy, pend_none_of_create hi cr.pc]; simp [Ne.symm ht]
    · rw [i.pendBy, (hi.pendPc _).mpr i.pc]; simp [Ne.symm ht]
    · rw [n.pendBy]

theorem pendSelf_step (hi : Inv s) (h : Step s l s') : ∀ c, s'.pendBy = some c → s'.newTh c ≠ c := by
  intro c hc
  rcases h.addThreads with ⟨j, cr⟩ | i | n
  · rw [cr.pendBy] at hc; cases hc
    rw [cr.newTh, upd_same]; exact cr.ne
  · rw [i.pendBy] at hc; cases hc
  · rw [n.pendBy] at hc; rw [n.newTh]; exact hi.pendSelf c hc

theorem pendNone_step (hi : Inv s) (h : Step s l s') :
    s'.pendBy = none → ph (s'.pc 0) ≤ 13 → ∀ u, u ∈ s'.workers → u ∈ s'.threads := by
  intro hp h13 u hu
  rcases h.addThreads with ⟨j, c⟩ | i | n
  · rw [c.pendBy] at hp; cases hp
  · rw [i.workers] at hu; rw [i.threads]
    exact List.mem_cons.mpr ((pend_of_insert hi i).1 u hu)
  · rw [n.pendBy] at hp; rw [n.workers] at hu
    rcases n.threads with e | ⟨e0, e1, -⟩
    · rw [e]; exact hi.pendNone hp (Nat.le_trans h.ph_mono h13) u hu
    · -- `m_list_free` is phase 13 → 14
      rw [zero_of_isM hi (u := l.tid) (by simp [e0])] at e1
      simp [e1] at h13

theorem pendSome_step (hi : Inv s) (h : Step s l s') :
    ∀ c, s'.pendBy = some c → (∀ u, u ∈ s'.workers → (u = s'.newTh c ∨ u ∈ s'.threads)) ∧ s'.newTh c ∉ s'.threads
                                       ∧ s'.newTh c ∈ s'.workers := by
  intro c hc
  rcases h.addThreads with ⟨j, cr⟩ | i | n
  · -- nobody was pending, so every worker but the new one is in `threads`
    rw [cr.pendBy] at hc; cases hc
    rw [cr.newTh, upd_same, cr.workers, cr.threads]
    have h4 := ph_of_addThreads hi (u := l.tid) (by rcases cr.pc with h | h | h <;> simp [h])
    exact ⟨fun u hu => (List.mem_cons.mp hu).imp_right (hi.pendNone (pend_none_of_create hi cr.pc) (by omega) u),
      none_not_thread hi j cr.fresh, List.mem_cons_self ..⟩
  · rw [i.pendBy] at hc; cases hc
  · rw [n.pendBy] at hc; rw [n.newTh, n.workers]
    rcases n.threads with e | ⟨e0, -, -⟩
    · rw [e]; exact hi.pendSome c hc
    · -- `m_list_free` is in phase 13; a thread in `add_threads` means phase ≤ 4
      have a := pend_ph hi hc
      simp [pc_zero_of_isM hi e0 rfl] at a

theorem lenRel_step (hi : Inv s) (h : Step s l s') :
    ph (s'.pc 0) ≤ 13 → s'.workers.length = s'.threads.length + (if s'.pendBy.isSome then 1 else 0) := by
  intro hp
  have ih := hi.lenRel (Nat.le_trans h.ph_mono hp)
  rcases h.addThreads with ⟨j, c⟩ | i | n
  · rw [pend_none_of_create hi c.pc] at ih
    rw [c.workers, c.threads, c.pendBy, List.length_cons, ih]; rfl
  · rw [(hi.pendPc _).mpr i.pc] at ih
    rw [i.workers, i.threads, i.pendBy, ih]; rfl
  · rcases n.threads with e | ⟨hc, hc', _⟩
    · rwa [n.workers, e, n.pendBy]
    · -- `m_list_free` takes thread 0 to phase 14
      rw [← zero_of_isM hi (u := l.tid) (by simp [hc]), hc'] at hp
      simp at hp

theorem workersLe_step (hi : Inv s) (h : Step s l s') : s'.workers.length ≤ s'.cfg.maxThreads := by
  rw [h.cfg]
  rcases h.addThreads with ⟨j, c⟩ | i | n
  · -- `pthread_create` is called when `pool->threads`, which then holds all workers, has room
    have hlen : ph (s.pc 0) ≤ 13 → s.workers.length = s.threads.length := fun hp => by
      have := hi.lenRel hp; rwa [pend_none_of_create hi c.pc] at this
    rw [c.workers, List.length_cons]
    rcases c.pc with hc | hc | hc
    · rw [hlen (Nat.le_trans (ph_of_pastChk hi l.tid (by simp [hc])) (by decide))]
      exact hi.createRoom _ (.inl hc)
    · rw [hlen (Nat.le_trans (ph_of_pastChk hi l.tid (by simp [hc])) (by decide))]
      exact hi.createRoom _ (.inr hc)
    · have hn := hi.newIdx (by rw [pc_zero_of_isM hi hc rfl]; rfl)
      rw [hlen (by rw [pc_zero_of_isM hi hc rfl]; decide), ← hn.1]
      exact hn.2.1
  · exact i.workers ▸ hi.workersLe
  · exact n.workers ▸ hi.workersLe

/-- a worker that holds the mutex after `m_thpool_new` has returned, and is not itself about to insert a thread, is in
`pool->threads`: the thread between `pthread_create` and `m_list_insert` holds the mutex too -/
theorem holder_in_threads (hi : Inv s) (hw : isW (s.pc u) = true) (hh : holds (s.pc u) = true)
    (hne : s.pc u ≠ .nInsert) (h2 : 2 ≤ ph (s.pc 0)) : u ∈ s.threads := by
  have h13 : ph (s.pc 0) ≤ 13 := Nat.le_of_not_lt fun hlt => by
    have := not_holds_of_gone _ (hi.goneAll (.inl (by omega)) u hw)
    rw [hh] at this; cases this
  cases hp : s.pendBy with
  | none => exact hi.pendNone hp h13 u ((hi.workersIff u).mpr hw)
  | some c =>
    exfalso
    rcases (hi.pendPc c).mp hp with hc | hc | hc
    · cases holder_unique hi hh (v := c) (by simp [hc]); simp [hc] at hw
    · cases holder_unique hi hh (v := c) (by simp [hc]); exact hne hc
    · simp [pc_zero_of_isM hi hc rfl] at h2

theorem createRoom_step (hi : Inv s) (h : Step s l s') :
    ∀ u, (s'.pc u = .sCreate ∨ s'.pc u = .nCreate) → s'.threads.length < s'.cfg.maxThreads := by
  intro u hu
  rw [h.cfg]
  by_cases ht : u = l.tid
  · subst ht
    cases h <;> simp only [State.goto, upd_same, reduceCtorEq, or_self, *] at hu
    case sLazy2_room hc | nLazy2_room hc => exact hc
  · rw [h.pc_other ht (by rcases hu with e | e <;> simp [e])] at hu
    rw [threads_frame hi h ht (by rcases hu with e | e <;> simp [e])]
    exact hi.createRoom u hu

theorem newIdx_step (hi : Inv s) (h : Step s l s') :
    ph (s'.pc 0) = 0 → s'.idx = s'.threads.length ∧ s'.idx < s'.cfg.maxThreads ∧ s'.cfg.isLazy = false := by
  intro hp
  have hp0 : ph (s.pc 0) = 0 := Nat.eq_zero_of_le_zero (Nat.le_trans h.ph_mono (Nat.le_of_eq hp))
  obtain ⟨ei, hlt, hz⟩ := hi.newIdx hp0
  rw [h.cfg]
  by_cases hc : s.pc l.tid = .mNewInsert
  · -- one more round of the loop in `m_thpool_new`; after the last one thread 0 leaves phase 0
    have t0 := zero_of_isM hi (u := l.tid) (by simp [hc])
    cases h <;> simp only [reduceCtorEq, *] at hc
    case mNewInsert_more hlt' => exact ⟨by simp [ei], hlt', hz⟩
    case mNewInsert_last => cases t0; simp [State.goto] at hp
  · -- `i` stays, and so does `pool->threads`: `m_thpool_add` is not called before `m_thpool_new` has returned
    rw [h.idx_cases.resolve_right fun e => hc e.1]
    refine ⟨?_, hlt, hz⟩
    rcases h.addThreads with ⟨_, c⟩ | i | n
    · rwa [c.threads]
    · rcases i.pc with hc' | hc' | hc'
      · have := two_le_ph_of_pastChk hi (u := l.tid) (by simp [hc']); omega
      · have := two_le_ph_of_pastChk hi (u := l.tid) (by simp [hc']); omega
      · exact (hc hc').elim
    · rcases n.threads with e | ⟨hc', _⟩
      · rwa [e]
      · simp [pc_zero_of_isM hi hc' rfl] at hp0

theorem eagerFull_step (hi : Inv s) (h : Step s l s') :
    s'.cfg.isLazy = false → (s'.pc 0 = .mNewRet ∨ s'.pc 0 = .mIdle) → s'.threads ≠ [] := by
  rw [h.cfg]
  intro hz hp
  by_cases h0 : l.tid = 0
  · have ih := hi.eagerFull hz
    rw [← h0] at hp ih
    cases h <;> simp only [State.goto, upd_same, reduceCtorEq, or_self, *] at hp
    case mNewInsert_last => exact List.cons_ne_nil _ _
    case mNewRet hc => exact ih (.inl hc)
  · rw [h.pc_zero h0] at hp
    exact h.threads_ne_nil (fun e => h0 (zero_of_isM hi (by simp [e]))) (hi.eagerFull hz hp)

theorem enqThreads_step (hi : Inv s) (h : Step s l s') :
    ∀ u, (s'.pc u = .sEnq ∨ s'.pc u = .nEnq) → s'.threads ≠ [] := by
  intro u hu
  by_cases ht : u = l.tid
  · subst ht
    cases h <;> simp only [State.goto, upd_same, reduceCtorEq, or_self, *] at hu
    case sShutChk_eager t hc _ hz => exact hi.eagerFull hz (.inr (hi.liveHandle t (by simp [hc])))
    case nShutChk_eager t hc _ _ =>
      -- the handle may be in `m_thpool_free` already, but the calling worker itself is in `pool->threads`
      exact List.ne_nil_of_mem (holder_in_threads (s := s) hi (u := t) (by simp [hc]) (by simp [hc]) (by simp [hc])
        (ph_of_inTask hi t (by simp [hc])))
    case sLazy1_idle hc | nLazy1_idle hc => exact List.ne_nil_of_length_pos (Nat.zero_lt_of_lt hc)
    case sLazy2_full hc | nLazy2_full hc =>
      exact List.ne_nil_of_length_pos (Nat.lt_of_lt_of_le hi.maxPos (Nat.le_of_not_lt hc))
    case sInsert | nInsert => exact List.cons_ne_nil _ _
  · rw [h.pc_other ht (by rcases hu with e | e <;> simp [e])] at hu
    rw [threads_frame hi h ht (by rcases hu with e | e <;> simp [e])]
    exact hi.enqThreads u hu

theorem tasksThreads_step (hi : Inv s) (h : Step s l s') : s'.tasks ≠ [] → s'.threads ≠ [] := by
  intro hq
  -- the queue was not empty, or this is an enqueue: so it is not `m_list_free`, which comes after `m_queue_free`
  have hf : s.pc l.tid ≠ .fListFree ∧ s.threads ≠ [] := by
    rcases h.tasks_cases with e | ⟨e, k, ek⟩ | ⟨e, _⟩ | ⟨e, _⟩ | ⟨_, e⟩
    · rw [e] at hq
      exact ⟨fun e => hq (hi.tasksFreed (by rw [pc_zero_of_isM hi e rfl]; decide)), hi.tasksThreads hq⟩
    · exact ⟨by simp [e], hi.tasksThreads (by simp [ek])⟩
    · exact ⟨by simp [e], hi.enqThreads _ (.inl e)⟩
    · exact ⟨by simp [e], hi.enqThreads _ (.inr e)⟩
    · exact (hq e).elim
  exact h.threads_ne_nil hf.1 hf.2

theorem tasksFreed_step (hi : Inv s) (h : Step s l s') : 13 ≤ ph (s'.pc 0) → s'.tasks = [] := by
  intro hp
  by_cases h13 : 13 ≤ ph (s.pc 0)
  · -- nothing is left to dequeue, and `m_thpool_add` is refused
    have he := hi.tasksFreed h13
    rcases h.tasks_cases with e | ⟨_, k, e⟩ | ⟨e, _⟩ | ⟨e, _⟩ | ⟨_, e⟩
    · rwa [e]
    · rw [he] at e; cases e
    · have := ph_of_pastChk hi l.tid (by simp [e]); omega
    · have := ph_of_pastChk hi l.tid (by simp [e]); omega
    · exact e
  · -- thread 0 has just done `m_queue_free`
    have h0 : l.tid = 0 := Decidable.byContradiction fun h0 => h13 (by rwa [h.pc_zero h0] at hp)
    have hm := hi.mainIsM
    rw [← h0] at hm hp h13
    cases h <;> simp only [State.goto, upd_same, *] at hm hp h13 <;> try contradiction
    all_goals first | rfl | simp at hp h13

end Lm.Thpool
