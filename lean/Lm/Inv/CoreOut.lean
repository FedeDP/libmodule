import Lm.Inv.CoreAbs
/-! What the stop / reset / removal paths may append to the output trace (for C20 and C04). -/
namespace Lm.Core

def SrcFrame (s s' : St) : Prop :=
  ∀ (i : Nat) (x' : Src), s'.srcs[i]? = some x' → ∃ x : Src, s.srcs[i]? = some x ∧ x.key = x'.key ∧ x.autoclose = x'.autoclose ∧ x.isSub = x'.isSub

theorem SrcFrame.refl (s : St) : SrcFrame s s := fun _ x' h => ⟨x', h, rfl, rfl, rfl⟩
theorem SrcFrame.trans {a b c : St} (h1 : SrcFrame a b) (h2 : SrcFrame b c) : SrcFrame a c := by
  intro i x' h
  obtain ⟨y, hy, k1, a1, s1⟩ := h2 i x' h
  obtain ⟨x, hx, k2, a2, s2⟩ := h1 i y hy
  exact ⟨x, hx, k2.trans k1, a2.trans a1, s2.trans s1⟩
theorem SrcFrame.of_srcs_eq {s s' : St} (h : s'.srcs = s.srcs) : SrcFrame s s' := by
  intro i x' hx; rw [h] at hx; exact ⟨x', hx, rfl, rfl, rfl⟩

/-- what the removal paths may produce from `s`: a payload free, a pipe end, or the descriptor of a source registered with AUTOCLOSE -/
def Allowed (s : St) : Out → Prop
  | .close (.fd k) => ∃ (i : Nat) (x : Src), s.srcs[i]? = some x ∧ x.key = k ∧ x.autoclose = true ∧ x.isSub = false
  | .close (.dup _) => False
  | .close .pipeR => True
  | .close .pipeW => True
  | .free _ => True
  | _ => False

theorem Allowed.mono {a b : St} (h : SrcFrame a b) {o : Out} (ho : Allowed b o) : Allowed a o := by
  cases o with
  | close w =>
    cases w with
    | fd k =>
      obtain ⟨i, x', hx, hk, ha, hs⟩ := ho
      obtain ⟨x, hx0, k1, a1, s1⟩ := h i x' hx
      exact ⟨i, x, hx0, k1.trans hk, a1.trans ha, s1.trans hs⟩
    | _ => exact ho
  | _ => exact ho

def Emits (g : St → St) : Prop :=
  ∀ s, SrcFrame s (g s) ∧ ∃ l, (g s).out = s.out ++ l ∧ ∀ o ∈ l, Allowed s o

theorem Emits.id : Emits (fun s => s) := fun s => ⟨SrcFrame.refl s, [], by simp, by simp⟩

theorem Emits.comp {g h : St → St} (hg : Emits g) (hh : Emits h) : Emits (fun s => g (h s)) := by
  intro s
  obtain ⟨f1, l1, e1, a1⟩ := hh s
  obtain ⟨f2, l2, e2, a2⟩ := hg (h s)
  refine ⟨f1.trans f2, l1 ++ l2, by rw [e2, e1, List.append_assoc], ?_⟩
  intro o ho
  rcases List.mem_append.1 ho with ho | ho
  · exact a1 o ho
  · exact Allowed.mono f1 (a2 o ho)

theorem Emits.foldl {α} (g : St → α → St) (hg : ∀ a, Emits (fun s => g s a)) (l : List α) :
    Emits (fun s => l.foldl g s) := by
  induction l with
  | nil => exact Emits.id
  | cons a l ih => exact Emits.comp ih (hg a)

theorem Emits.pointwise (g : St → St) (h : ∀ s, ∃ g', Emits g' ∧ g s = g' s) : Emits g := by
  intro s
  obtain ⟨g', hq, he⟩ := h s
  rw [he]; exact hq s

theorem Emits.ite (c : Prop) [Decidable c] {g h : St → St} (hg : Emits g) (hh : Emits h) :
    Emits (fun s => if c then g s else h s) := by
  by_cases hc : c
  · simpa [hc] using hg
  · simpa [hc] using hh

theorem emits_of_eq (g : St → St) (hs : ∀ s, (g s).srcs = s.srcs) (ho : ∀ s, (g s).out = s.out) : Emits g :=
  fun s => ⟨SrcFrame.of_srcs_eq (hs s), [], by simp [ho s], by simp⟩

theorem emits_updMod (m : ModId) (f : Mod → Mod) : Emits (fun s => s.updMod m f) :=
  emits_of_eq _ (fun s => updMod_srcs s m f) (fun s => updMod_out s m f)

theorem emits_holders (hs : List Nat) : Emits (fun s => { s with holders := hs }) :=
  emits_of_eq _ (fun _ => rfl) (fun _ => rfl)

theorem emits_emit (o : Out) (h : ∀ s, Allowed s o) : Emits (fun s => s.emit o) :=
  fun s => ⟨SrcFrame.of_srcs_eq rfl, [o], rfl, by simpa using h s⟩

theorem emits_holderUnref (h) : Emits (fun s => holderUnref s h) := by
  apply Emits.pointwise
  intro s
  unfold holderUnref
  split
  · exact ⟨_, Emits.id, rfl⟩
  · split
    · exact ⟨_, Emits.ite _ (Emits.comp (emits_emit _ fun _ => by simp [Allowed]) (emits_holders _)) (emits_holders _), rfl⟩
    · exact ⟨_, Emits.id, rfl⟩

theorem emits_destroyMsg (msg) : Emits (fun s => destroyMsg s msg) := emits_holderUnref _

theorem emits_destroyEvt (e) : Emits (fun s => destroyEvt s e) := by
  unfold destroyEvt
  cases e.msg with
  | none => exact Emits.id
  | some m => exact emits_destroyMsg m

theorem emits_destroyEvts (evts keep) : Emits (fun s => destroyEvts s evts keep) :=
  Emits.foldl _ (fun e => Emits.ite _ Emits.id (emits_destroyEvt e)) evts

theorem srcFrame_updSrc (s : St) (i : SrcId) (f : Src → Src)
    (hf : ∀ x, (f x).key = x.key ∧ (f x).autoclose = x.autoclose ∧ (f x).isSub = x.isSub) : SrcFrame s (s.updSrc i f) := by
  intro j x' hx'
  rw [updSrc_eq] at hx'
  obtain ⟨x, hx, rfl⟩ := Option.map_eq_some_iff.mp ((List.getElem?_modify f i s.srcs j).symm.trans hx')
  refine ⟨x, hx, ?_⟩
  split
  · exact ⟨(hf x).1.symm, (hf x).2.1.symm, (hf x).2.2.symm⟩
  · exact ⟨rfl, rfl, rfl⟩

theorem emits_updSrc_flags (i : SrcId) (f : Src → Src)
    (hf : ∀ x, (f x).key = x.key ∧ (f x).autoclose = x.autoclose ∧ (f x).isSub = x.isSub) : Emits (fun s => s.updSrc i f) :=
  fun s => ⟨srcFrame_updSrc s i f hf, [], by simp, by simp⟩

theorem emits_destroySrc (i) : Emits (fun s => destroySrc s i) := by
  intro s
  show SrcFrame s (destroySrc s i) ∧ ∃ l, (destroySrc s i).out = s.out ++ l ∧ ∀ o ∈ l, Allowed s o
  have hfr := emits_updSrc_flags i (fun x => { x with registered := false, polled := false }) (fun _ => ⟨rfl, rfl, rfl⟩) s
  unfold destroySrc
  split
  · next x hx =>
    split
    · next h =>
      simp only [Bool.and_eq_true, Bool.not_eq_true'] at h
      refine ⟨hfr.1, [.close (.fd x.key)], by simp [St.emit], fun o ho => ?_⟩
      cases List.mem_singleton.mp ho
      exact ⟨i, x, hx, rfl, h.1, h.2⟩
    · exact hfr
  · exact Emits.id s

theorem emits_removeSrc (m i) : Emits (fun s => removeSrc s m i) :=
  Emits.comp (emits_destroySrc i) (emits_updMod m _)

theorem emits_flushDestroy (m) : Emits (fun s => flushDestroy s m) := by
  apply Emits.pointwise
  intro s
  unfold flushDestroy
  split
  · split
    · exact ⟨_, Emits.comp (emits_updMod m _) (Emits.foldl destroyMsg emits_destroyMsg _), rfl⟩
    · exact ⟨_, Emits.id, rfl⟩
  · exact ⟨_, Emits.id, rfl⟩

theorem emits_manageSrcsRm (m stop) : Emits (fun s => manageSrcsRm s m stop) := by
  apply Emits.pointwise
  intro s
  unfold manageSrcsRm
  have q2 := emits_updMod m fun md => { md with pipePolled := false }
  split
  · exact ⟨_, Emits.id, rfl⟩
  · rename_i md _
    split
    · have q1 : Emits (fun s => if md.pipe.isSome then (flushDestroy s m).emit (.close .pipeR) else s) :=
        Emits.ite _ (Emits.comp (emits_emit _ fun _ => by simp [Allowed]) (emits_flushDestroy m)) Emits.id
      exact ⟨_, Emits.comp (Emits.foldl _ (emits_removeSrc m) (sortSrcs s md.srcs)) (Emits.comp q2 q1), rfl⟩
    · have q3 := Emits.foldl (fun s i => s.updSrc i fun x => { x with polled := false })
        (fun i => emits_updSrc_flags i _ fun _ => ⟨rfl, rfl, rfl⟩) md.srcs
      exact ⟨_, Emits.comp q3 q2, rfl⟩

theorem emits_resetModule (m) : Emits (fun s => resetModule s m) := by
  apply Emits.pointwise
  intro s
  unfold resetModule
  split
  · exact ⟨_, Emits.id, rfl⟩
  · rename_i md _
    have q1 : Emits (fun s => if md.pipe.isSome then s.emit (.close .pipeW) else s) :=
      Emits.ite _ (emits_emit _ fun _ => by simp [Allowed]) Emits.id
    have q2 := Emits.foldl _ (emits_removeSrc m) md.subs
    have q3 := emits_destroyEvts md.stash []
    have q4 := emits_destroyEvts md.batch []
    have q5 := emits_updMod m Mod.reset
    exact ⟨_, Emits.comp q5 (Emits.comp q4 (Emits.comp q3 (Emits.comp q2 q1))), rfl⟩

end Lm.Core
