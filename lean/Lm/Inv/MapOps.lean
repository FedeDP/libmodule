import Lm.Inv.Map
/-!
# Map-level specifications of the operations (property C05)

`WF` is preserved by every operation and each operation acts on the set of entries `Has m.cells`
exactly like the corresponding dictionary operation.
-/
namespace Lm.Struct.Map
variable {κ : Type}

structure SameFlags (m m' : Map κ) : Prop where
  dup : m'.dup = m.dup
  autofree : m'.autofree = m.autofree
  update : m'.update = m.update
  dtor : m'.dtor = m.dtor

theorem SameFlags.refl (m : Map κ) : SameFlags m m := ⟨rfl, rfl, rfl, rfl⟩
theorem SameFlags.trans {a b c : Map κ} (h1 : SameFlags a b) (h2 : SameFlags b c) : SameFlags a c :=
  ⟨h2.dup.trans h1.dup, h2.autofree.trans h1.autofree, h2.update.trans h1.update, h2.dtor.trans h1.dtor⟩

def Unchanged (m m' : Map κ) : Prop := (∀ e, Has m'.cells e ↔ Has m.cells e) ∧ m'.length = m.length

theorem Unchanged.refl (m : Map κ) : Unchanged m m := ⟨fun _ => Iff.rfl, rfl⟩

theorem Unchanged.trans {a b c : Map κ} (h1 : Unchanged a b) (h2 : Unchanged b c) : Unchanged a c :=
  ⟨fun e => (h2.1 e).trans (h1.1 e), h2.2.trans h1.2⟩

def PutOk (m m' : Map κ) (k : κ) (v : Nat) : Prop :=
  ∀ e, Has m'.cells e ↔ e = (k, v) ∨ (Has m.cells e ∧ e.1 ≠ k)

theorem PutOk.transfer {m m1 m' : Map κ} {k : κ} {v : Nat} (hU : Unchanged m m1) (h : PutOk m1 m' k v) :
    PutOk m m' k v := by
  intro e; rw [h e, hU.1 e]

/-- what a `put` does to a well-formed map, as seen by a dictionary; `lim`: the table has reached the size at which
the allocator gives up -/
def PutSpec (m : Map κ) (k : κ) (v : Nat) (lim : Prop) (r : Map κ × List (Ev κ) × Int) : Prop :=
  (r.2.2 = 0 ∧ PutOk m r.1 k v ∧
    (((∀ w, ¬ Has m.cells (k, w)) ∧ r.1.length = m.length + 1 ∧ r.2.1 = []) ∨
     (∃ w, Has m.cells (k, w) ∧ m.update = true ∧ r.1.length = m.length ∧
        r.2.1 = if m.dtor && w != v then [Ev.dtor w] else []))) ∨
  (r.2.2 = -1 ∧ Unchanged m r.1 ∧ r.2.1 = [] ∧ m.update = false ∧ ∃ w, Has m.cells (k, w)) ∨
  (r.2.2 = -12 ∧ Unchanged m r.1 ∧ r.2.1 = [] ∧ (m.oom = true ∨ lim))

/-- a `put` into a map with the same entries and flags (the grown table) is a `put` into the map -/
theorem PutSpec.transfer {m m1 : Map κ} {k : κ} {v : Nat} {lim lim' : Prop} {r : Map κ × List (Ev κ) × Int}
    (hU : Unchanged m m1) (hF : SameFlags m m1) (hoom : m1.oom = m.oom) (hl : lim → lim')
    (h : PutSpec m1 k v lim r) : PutSpec m k v lim' r := by
  rcases h with ⟨h1, h2, h3⟩ | ⟨h1, h2, h3, h4, w, h5⟩ | ⟨h1, h2, h3, h4⟩
  · left
    refine ⟨h1, h2.transfer hU, ?_⟩
    rcases h3 with ⟨a, b, c⟩ | ⟨w, a, b, c, d⟩
    · left; exact ⟨fun w hw => a w ((hU.1 _).mpr hw), by rw [b, hU.2], c⟩
    · right; exact ⟨w, (hU.1 _).mp a, by rw [← hF.update]; exact b, by rw [c, hU.2], by rw [d, hF.dtor]⟩
  · right; left
    exact ⟨h1, hU.trans h2, h3, by rw [← hF.update]; exact h4, w, (hU.1 _).mp h5⟩
  · right; right
    exact ⟨h1, hU.trans h2, h3, h4.imp (fun h => by rw [← hoom]; exact h) hl⟩

section
variable {P : Params κ} {m : Map κ} {c : List (Cell κ)}

theorem WF.set (hwf : WF P m) {c' : List (Cell κ)} {len' : Nat}
    (hlen : c'.length = m.cells.length) (ht : TWF P c') (hl : len' = occ c') (hr : len' < c'.length) :
    WF P { m with cells := c', length := len' } :=
  ⟨by simpa [Map.size, hlen] using hwf.size, ht, hl, hr⟩

theorem WF.congr {m' : Map κ} (hwf : WF P m) (hc : m'.cells = m.cells) (hl : m'.length = m.length) : WF P m' :=
  ⟨by simpa [Map.size, hc] using hwf.size, hc ▸ hwf.tbl, by rw [hc, hl]; exact hwf.len,
    by simpa [Map.size, hc, hl] using hwf.room⟩

theorem PutSpec.of_fail {m' : Map κ} (hwf : WF P m) (hc : m'.cells = m.cells) (hl : m'.length = m.length)
    (hF : SameFlags m m') (k : κ) (v : Nat) {lim : Prop} (h : m.oom = true ∨ lim) :
    WF P m' ∧ SameFlags m m' ∧ PutSpec m k v lim (m', [], -12) :=
  ⟨hwf.congr hc hl, hF, Or.inr (Or.inr ⟨rfl, ⟨fun e => by rw [hc], hl⟩, rfl, h⟩)⟩

theorem slot_replicate (N j : Nat) : slot (List.replicate N (none : Cell κ)) j = none := by
  unfold slot; rw [List.getElem?_replicate]; split <;> rfl

theorem TWF_replicate (P : Params κ) (N : Nat) : TWF P (List.replicate N (none : Cell κ)) := by
  constructor
  · intro j k v _ hs; rw [slot_replicate] at hs; cases hs
  · intro a b k v w _ _ hs; rw [slot_replicate] at hs; cases hs

theorem occ_replicate (N : Nat) : occ (List.replicate N (none : Cell κ)) = 0 := by
  simp [occ]

theorem not_has_replicate (N : Nat) (e : κ × Nat) : ¬ Has (List.replicate N (none : Cell κ)) e := by
  rintro ⟨j, _, hs⟩; rw [slot_replicate] at hs; cases hs

theorem WF_new (hP : P.Good) (a b c d : Bool) : WF P (new P a b c d) := by
  constructor
  · exact ⟨by simpa [new, Map.size] using hP.default_pow2, by simp [new, Map.size], by simpa [new, Map.size] using hP.default_le⟩
  · exact TWF_replicate P _
  · simp [new, occ_replicate]
  · have := hP.default_ge; simp [new, Map.size]; omega

/-- what a changed value leaves (`hashmap_put` on a live key, `m_map_itr_set_data`) -/
def SameKeys (c c' : List (Cell κ)) : Prop :=
  c'.length = c.length ∧ ∀ j, (slot c' j).map (·.1) = (slot c j).map (·.1)

section
variable {c' : List (Cell κ)} {j : Nat} {k : κ}

theorem SameKeys.refl (c : List (Cell κ)) : SameKeys c c := ⟨rfl, fun _ => rfl⟩

theorem SameKeys.symm (h : SameKeys c c') : SameKeys c' c := ⟨h.1.symm, fun j => (h.2 j).symm⟩

theorem SameKeys.slot_some (h : SameKeys c c') {v : Nat} (hs : slot c j = some (k, v)) : ∃ w, slot c' j = some (k, w) := by
  have := h.2 j
  rw [hs] at this
  obtain ⟨e, he, hek⟩ := Option.map_eq_some_iff.mp this
  exact ⟨e.2, he.trans (congrArg some (Prod.ext hek rfl))⟩

theorem SameKeys.slot_none (h : SameKeys c c') (hs : slot c j = none) : slot c' j = none := by
  have := h.2 j
  rw [hs] at this
  exact Option.map_eq_none_iff.mp this

theorem SameKeys.has (h : SameKeys c c') (hh : ∃ v, Has c (k, v)) : ∃ v, Has c' (k, v) := by
  obtain ⟨v, j, hj, hs⟩ := hh
  obtain ⟨w, hw⟩ := h.slot_some hs
  exact ⟨w, j, by rw [h.1]; exact hj, hw⟩

theorem SameKeys.twf (h : SameKeys c c') (t : TWF P c) : TWF P c' := by
  have h' := h.symm
  constructor
  · intro j k v hj hs
    rw [h.1] at hj ⊢
    obtain ⟨w, hw⟩ := h'.slot_some hs
    obtain ⟨d, hd, hp, hr⟩ := t.run j k w hj hw
    exact ⟨d, hd, hp, fun e he hn => hr e he (h'.slot_none hn)⟩
  · intro a b k v w ha hb hsa hsb
    rw [h.1] at ha hb
    obtain ⟨v', hv'⟩ := h'.slot_some hsa
    obtain ⟨w', hw'⟩ := h'.slot_some hsb
    exact t.uniq a b k v' w' ha hb hv' hw'

theorem SameKeys.update {i : Nat} {v0 : Nat} (hs : slot c i = some (k, v0)) (v : Nat) :
    SameKeys c (c.set (i % c.length) (some (k, v))) := by
  refine ⟨List.length_set, fun j => ?_⟩
  rw [slot_set rfl (pos_of_slot hs)]
  split
  · rename_i hij; rw [← slot_congr hij, hs]; rfl
  · rfl

end

theorem has_set {i : Nat} {k : κ} (v : Nat) (hn : 0 < c.length) (hi : ∀ e0, slot c i = some e0 → e0.1 = k)
    (honly : ∀ j w, slot c j = some (k, w) → j % c.length = i % c.length) (e : κ × Nat) :
    Has (c.set (i % c.length) (some (k, v))) e ↔ e = (k, v) ∨ (Has c e ∧ e.1 ≠ k) := by
  unfold Has
  simp only [List.length_set, slot_set rfl hn]
  constructor
  · rintro ⟨j, hj, hs⟩
    split at hs
    · cases hs; exact Or.inl rfl
    · rename_i hne
      refine Or.inr ⟨⟨j, hj, hs⟩, ?_⟩
      obtain ⟨k', w⟩ := e
      rintro rfl
      exact hne (honly j w hs).symm
  · rintro (rfl | ⟨⟨j, hj, hs⟩, hk⟩)
    · exact ⟨i % c.length, Nat.mod_lt _ hn, by rw [Nat.mod_mod, if_pos rfl]⟩
    · refine ⟨j, hj, ?_⟩
      rw [if_neg, hs]
      intro heq
      exact hk (hi e (by rw [slot_congr heq, hs]))

theorem has_update (h : TWF P c) {i : Nat} {k : κ} {v0 : Nat} (hs : slot c i = some (k, v0)) (v : Nat) (e : κ × Nat) :
    Has (c.set (i % c.length) (some (k, v))) e ↔ e = (k, v) ∨ (Has c e ∧ e.1 ≠ k) :=
  has_set v (pos_of_slot hs) (fun e0 h0 => by rw [hs] at h0; cases h0; rfl)
    (fun j w hj => h.uniq_pos j i k w v0 hj hs) e

theorem occ_update {i : Nat} {e0 : κ × Nat} (hs : slot c i = some e0) (e : κ × Nat) :
    occ (c.set (i % c.length) (some e)) = occ c := by
  have := occ_set_slot i (some e) (pos_of_slot hs)
  rw [hs] at this; simpa using this

theorem WF.update (hwf : WF P m) {i : Nat} {k : κ} {v0 : Nat} (hs : slot m.cells i = some (k, v0)) (v : Nat) :
    WF P { m with cells := m.cells.set (i % m.size) (some (k, v)) } :=
  hwf.set (by simp [Map.size]) ((SameKeys.update hs v).twf hwf.tbl) (by rw [Map.size, occ_update hs]; exact hwf.len)
    (by simpa [Map.size] using hwf.room)

theorem clearElem_none (P : Params κ) {i : Nat} (hs : slot m.cells i = none) : clearElem P m i = (m, []) := by
  unfold clearElem; rw [hs]

theorem clearElem_eq (P : Params κ) {i : Nat} {k : κ} {v : Nat} (hs : slot m.cells i = some (k, v)) :
    clearElem P m i = ({ m with cells := cleared P m.cells i, length := m.length - 1 },
      (if m.autofree then [Ev.kfree k] else []) ++ (if m.dtor then [Ev.dtor v] else [])) := by
  unfold clearElem cleared Map.size
  rw [hs]

theorem clearElem_spec (hP : P.Good) (hwf : WF P m) {i : Nat} {k : κ} {v : Nat} (hs : slot m.cells i = some (k, v)) :
    WF P (clearElem P m i).1 ∧ SameFlags m (clearElem P m i).1 ∧
    (clearElem P m i).1.length + 1 = m.length ∧ (clearElem P m i).1.size = m.size ∧
    (∀ e, Has (clearElem P m i).1.cells e ↔ (Has m.cells e ∧ e.1 ≠ k)) ∧
    (clearElem P m i).2 = (if m.autofree then [Ev.kfree k] else []) ++ (if m.dtor then [Ev.dtor v] else []) := by
  rw [clearElem_eq P hs]
  have hocc := hwf.occ_lt
  have h1 := occ_cleared P hs hocc
  have hlen := length_cleared P m.cells i
  have hl := hwf.len
  refine ⟨hwf.set hlen (TWF_cleared hP hwf.size hwf.tbl hs hocc) (by omega) (by omega), ⟨rfl, rfl, rfl, rfl⟩,
    by simp only; omega, hlen, mem_cleared hwf.tbl hs hocc, rfl⟩

end

section
variable [DecidableEq κ] {P : Params κ} {m : Map κ}

theorem rehash_spec (hP : P.Good) (hwf : WF P m) :
    (∃ m', rehash P m = (m', 0) ∧ WF P m' ∧ m'.size = 2 * m.size ∧ Unchanged m m' ∧ SameFlags m m' ∧
        2 * m.size ≤ P.maxSize ∧ m'.oom = m.oom) ∨
    (∃ m', rehash P m = (m', -12) ∧ m'.cells = m.cells ∧ m'.length = m.length ∧ SameFlags m m' ∧
        (m.oom = true ∨ P.maxSize < 2 * m.size)) := by
  unfold rehash
  by_cases hoom : m.oom = true
  · rw [if_pos hoom]
    exact Or.inr ⟨_, rfl, rfl, rfl, ⟨rfl, rfl, rfl, rfl⟩, Or.inl hoom⟩
  · rw [if_neg hoom]
    by_cases hmax : P.maxSize < 2 * m.size
    · rw [if_pos hmax]
      exact Or.inr ⟨_, rfl, rfl, rfl, SameFlags.refl m, Or.inr hmax⟩
    · rw [if_neg hmax]
      left
      have hocc := hwf.occ_lt
      have hmax' : 2 * m.cells.length ≤ P.maxSize := Nat.le_of_not_lt hmax
      obtain ⟨t', h1, h2, h3, h4, h5⟩ := rehashFill_spec hP m.cells (List.replicate (2 * m.cells.length) none)
        (by simpa using hmax') (TWF_replicate P _) (by rw [occ_replicate]; simp; omega)
        (nodup_keysOf hwf.tbl) (fun k _ w => not_has_replicate _ _)
      rw [List.length_replicate] at h2
      rw [occ_replicate, Nat.zero_add] at h4
      have hge : P.sizeDefault ≤ m.cells.length := hwf.size.ge
      have hl := hwf.len
      unfold Map.size
      rw [h1]
      refine ⟨_, rfl, ⟨⟨?_, ?_, ?_⟩, h3, ?_, ?_⟩, h2,
        ⟨fun e => ?_, rfl⟩, ⟨rfl, rfl, rfl, rfl⟩, hmax', rfl⟩
      · show Pow2 t'.length; rw [h2]; exact pow2_double hwf.size.pow2
      · show P.sizeDefault ≤ t'.length; omega
      · show t'.length ≤ P.maxSize; omega
      · show m.length = occ t'; omega
      · show m.length < t'.length; omega
      · show Has t' e ↔ Has m.cells e
        rw [h5, ← has_iff_mem]
        exact or_iff_right (not_has_replicate _ _)

theorem store_spec (hP : P.Good) (hwf : WF P m) (hroom : m.length + 1 < m.size)
    {k : κ} (v : Nat) {i : Nat} (hf : entryFind P m.cells k true = some i) (lim : Prop) :
    WF P (store m i k v).1 ∧ SameFlags m (store m i k v).1 ∧ PutSpec m k v lim (store m i k v) := by
  have hle : m.cells.length ≤ P.maxSize := hwf.size.le
  have hn := hwf.pos hP
  obtain ⟨d, _, _, _, h4⟩ := entryFind_sound hP hle hf
  unfold store
  rcases h4 with ⟨v0, hv0⟩ | ⟨_, hnone⟩
  · have hhas : Has m.cells (k, v0) := Has.of_slot hv0
    simp only [hv0]
    by_cases hu : m.update = true
    · rw [if_pos hu]
      exact ⟨hwf.update hv0 v, ⟨rfl, rfl, rfl, rfl⟩,
        Or.inl ⟨rfl, has_update hwf.tbl hv0 v, Or.inr ⟨v0, hhas, hu, rfl, rfl⟩⟩⟩
    · rw [if_neg hu]
      exact ⟨hwf, SameFlags.refl m, Or.inr (Or.inl ⟨rfl, Unchanged.refl m, rfl, by simpa using hu, v0, hhas⟩)⟩
  · have habs := absent_of_find_empty hP hle hwf.tbl hf hnone
    simp only [hnone]
    refine ⟨hwf.set (by simp [Map.size]) (TWF_insert hP hle hwf.tbl v hf hnone)
      (by rw [Map.size, occ_insert hn hnone, hwf.len]) (by simpa [Map.size] using hroom),
      ⟨rfl, rfl, rfl, rfl⟩, Or.inl ⟨rfl, ?_, Or.inl ⟨fun w hw => ?_, rfl, rfl⟩⟩⟩
    · exact has_set v hn (fun e0 h0 => by rw [hnone] at h0; cases h0)
        (fun j w hj => absurd (by rw [slot_mod]; exact hj) (habs _ w (Nat.mod_lt _ hn)))
    · obtain ⟨j, hj, hs⟩ := hw; exact habs j w hj hs

theorem hput2_spec (hP : P.Good) (hwf : WF P m) (hroom : m.length + 1 < m.size) (k : κ) (v : Nat) :
    WF P (hput2 P m k v).1 ∧ SameFlags m (hput2 P m k v).1 ∧
      PutSpec m k v (P.maxSize < 2 * m.size) (hput2 P m k v) := by
  unfold hput2
  split
  · rename_i i hf
    exact store_spec hP hwf hroom v hf _
  · rename_i hf
    rcases rehash_spec hP hwf with ⟨m', h1, h2, h3, h4, h5, h6, h7⟩ | ⟨m', h1, h2, h3, h4, h5⟩
    · rw [h1]
      simp only [ne_eq, not_true_eq_false, if_false]
      have hocc : occ m'.cells < m'.cells.length / 2 := by
        have := h2.len; have := h4.2
        unfold Map.size at h3 hroom
        omega
      obtain ⟨i, hi⟩ := entryFind_succeeds hP h2.size.le k hocc
      rw [hi]
      have hroom' : m'.length + 1 < m'.size := by have := h4.2; omega
      obtain ⟨g1, g2, g3⟩ := store_spec hP h2 hroom' v hi (P.maxSize < 2 * m.size)
      exact ⟨g1, h5.trans g2, g3.transfer h4 h5 h7 id⟩
    · rw [h1, if_pos (show (-12 : Int) ≠ 0 by decide)]
      exact PutSpec.of_fail hwf h2 h3 h4 k v h5

theorem hput_spec (hP : P.Good) (hwf : WF P m) (k : κ) (v : Nat) :
    WF P (hput P m k v).1 ∧ SameFlags m (hput P m k v).1 ∧
      PutSpec m k v (P.maxSize < 4 * m.size) (hput P m k v) := by
  unfold hput
  by_cases hg : m.size ≤ P.minSize m.length
  · simp only [hg, if_true]
    rcases rehash_spec hP hwf with ⟨m', h1, h2, h3, h4, h5, h6, h7⟩ | ⟨m', h1, h2, h3, h4, h5⟩
    · rw [h1]
      have hroom' : m'.length + 1 < m'.size := by have := h4.2; have := hwf.room; omega
      obtain ⟨g1, g2, g3⟩ := hput2_spec hP h2 hroom' k v
      exact ⟨g1, h5.trans g2, g3.transfer h4 h5 h7 (by rw [h3]; omega)⟩
    · rw [h1, if_pos (show (-12 : Int) ≠ 0 by decide)]
      exact PutSpec.of_fail hwf h2 h3 h4 k v (h5.imp id (by omega))
  · simp only [hg, if_false]
    have hroom : m.length + 1 < m.size := hP.load_ok m.size m.length hwf.size.ge hwf.size.le hwf.room hg
    obtain ⟨g1, g2, g3⟩ := hput2_spec hP hwf hroom k v
    exact ⟨g1, g2, g3.transfer (Unchanged.refl m) (SameFlags.refl m) rfl (by omega)⟩

theorem put_spec (hP : P.Good) (hwf : WF P m) (k : κ) (v : Nat) :
    WF P (put P m k v).1 ∧ SameFlags m (put P m k v).1 ∧
    ((v = 0 ∧ put P m k v = (m, [], -22)) ∨
     (v ≠ 0 ∧ ∃ r, PutSpec m k v (P.maxSize < 4 * m.size) r ∧ (put P m k v).1 = r.1 ∧ (put P m k v).2.2 = r.2.2 ∧
        (put P m k v).2.1 =
          if (m.dup || m.autofree) then
            [Ev.kalloc k] ++ r.2.1 ++ (if r.2.2 ≠ 0 ∨ r.1.length = m.length then [Ev.kfree k] else [])
          else r.2.1)) := by
  obtain ⟨g1, g2, g3⟩ := hput_spec hP hwf k v
  unfold put
  by_cases hv : v = 0
  · rw [if_pos hv]; exact ⟨hwf, SameFlags.refl m, Or.inl ⟨hv, rfl⟩⟩
  · rw [if_neg hv]
    by_cases ho : (m.dup || m.autofree) = true
    · simp only [ho, Bool.not_true, Bool.false_eq_true, if_false]
      refine ⟨g1, g2, Or.inr ⟨hv, hput P m k v, g3, rfl, rfl, ?_⟩⟩
      congr 2
      simp [Bool.or_eq_true, beq_iff_eq]
    · simp only [ho, Bool.not_false, if_true]
      exact ⟨g1, g2, Or.inr ⟨hv, hput P m k v, g3, rfl, rfl, by simp⟩⟩

theorem get_spec (hP : P.Good) (hwf : WF P m) (k : κ) (v : Nat) : get P m k = some v ↔ Has m.cells (k, v) := by
  have hle : m.cells.length ≤ P.maxSize := hwf.size.le
  unfold get
  by_cases h0 : m.length = 0
  · rw [if_pos h0]
    exact ⟨nofun, fun h => absurd h (no_entries_of_length_zero hwf h0 _)⟩
  · rw [if_neg h0]
    constructor
    · intro h
      cases hf : entryFind P m.cells k false with
      | none => rw [hf] at h; cases h
      | some i =>
        rw [hf] at h
        simp only at h
        obtain ⟨d, _, _, _, h4⟩ := entryFind_sound hP hle hf
        rcases h4 with ⟨w, hw⟩ | ⟨hfe, _⟩
        · rw [hw] at h; simp at h; subst h
          exact Has.of_slot hw
        · cases hfe
    · rintro ⟨j, hj, hs⟩
      obtain ⟨i, hi, hm⟩ := entryFind_complete hP hle hwf.tbl false hj hs
      rw [hi]
      simp only
      rw [← slot_mod, hm, hs]; rfl

theorem get_none_spec (hP : P.Good) (hwf : WF P m) (k : κ) : get P m k = none ↔ ∀ v, ¬ Has m.cells (k, v) := by
  rw [Option.eq_none_iff_forall_ne_some]
  exact forall_congr' fun v => not_congr (get_spec hP hwf k v)

theorem contains_spec (hP : P.Good) (hwf : WF P m) (k : κ) : contains P m k = true ↔ ∃ v, Has m.cells (k, v) := by
  unfold contains
  rw [Option.isSome_iff_exists]
  exact exists_congr (get_spec hP hwf k)

theorem remove_spec (hP : P.Good) (hwf : WF P m) (k : κ) :
    WF P (remove P m k).1 ∧ SameFlags m (remove P m k).1 ∧
    ((∃ v, Has m.cells (k, v) ∧ (remove P m k).2.2 = 0 ∧ (remove P m k).1.length + 1 = m.length ∧
        (remove P m k).1.size = m.size ∧
        (∀ e, Has (remove P m k).1.cells e ↔ (Has m.cells e ∧ e.1 ≠ k)) ∧
        (remove P m k).2.1 = (if m.autofree then [Ev.kfree k] else []) ++ (if m.dtor then [Ev.dtor v] else [])) ∨
     ((∀ v, ¬ Has m.cells (k, v)) ∧ (remove P m k).1 = m ∧ (remove P m k).2.1 = [] ∧
        (remove P m k).2.2 = if m.length = 0 then -22 else -2)) := by
  have hle : m.cells.length ≤ P.maxSize := hwf.size.le
  unfold remove
  by_cases h0 : m.length = 0
  · rw [if_pos h0]
    exact ⟨hwf, SameFlags.refl m, Or.inr ⟨fun v => no_entries_of_length_zero hwf h0 _, rfl, rfl, by simp [h0]⟩⟩
  · rw [if_neg h0]
    cases hf : entryFind P m.cells k false with
    | none =>
      refine ⟨hwf, SameFlags.refl m, Or.inr ⟨?_, rfl, rfl, by simp [h0]⟩⟩
      rintro v ⟨j, hj, hs⟩
      obtain ⟨i, hi, _⟩ := entryFind_complete hP hle hwf.tbl false hj hs
      rw [hf] at hi; cases hi
    | some i =>
      obtain ⟨d, _, _, _, h4⟩ := entryFind_sound hP hle hf
      rcases h4 with ⟨v, hv⟩ | ⟨hfe, _⟩
      · obtain ⟨g1, g2, g3, g4, g5, g6⟩ := clearElem_spec hP hwf hv
        exact ⟨g1, g2, Or.inl ⟨v, Has.of_slot hv, rfl, g3, g4, g5, g6⟩⟩
      · cases hfe

end

end Lm.Struct.Map
