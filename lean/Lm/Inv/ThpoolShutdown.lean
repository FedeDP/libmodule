import Lm.Inv.ThpoolInv
/-!
Preservation of the invariants about the shutdown sequence of `m_thpool_free`: the alive counter, the join loop, the
teardown, which starts only when every worker has made its last access to the pool, and the wait of `wait_pool` for
detached workers.
-/
namespace Lm.Thpool
variable {s s' : State} {l : Label} {u : Tid}

theorem countP_flip {α : Type} (p q : α → Bool) (t : α) (ls : List α) (hn : ls.Nodup) (ht : t ∈ ls)
    (hp : p t = true) (hq : q t = false) (ho : ∀ u ∈ ls, u ≠ t → q u = p u) : ls.countP q + 1 = ls.countP p := by
  induction ls with
  | nil => cases ht
  | cons a as ih =>
    obtain ⟨ha, hn⟩ := List.nodup_cons.mp hn
    rw [List.countP_cons, List.countP_cons]
    by_cases hat : a = t
    · subst hat
      rw [hp, hq, List.countP_congr fun u hu => by rw [ho u (List.mem_cons_of_mem _ hu) fun e => ha (e ▸ hu)]]
      simp
    · have := ih hn ((List.mem_cons.mp ht).resolve_left (Ne.symm hat)) fun u hu => ho u (List.mem_cons_of_mem _ hu)
      rw [ho a List.mem_cons_self hat]
      omega

/-- once `shutdown` is set nobody is in `add_threads`, so every worker is in `pool->threads` (until `m_list_free`) -/
theorem worker_mem_threads (hi : Inv s) (hph : 5 ≤ ph (s.pc 0)) (hph2 : ph (s.pc 0) ≤ 13) (u : Tid) (hu : isW (s.pc u) = true) :
    u ∈ s.threads := by
  have hw := (hi.workersIff u).mpr hu
  cases hp : s.pendBy with
  | none => exact hi.pendNone hp hph2 u hw
  | some c => have := pend_ph hi hp; omega

/-- in particular a worker that leaves the loop: it has seen `shutdown` set -/
theorem exiting_mem_threads (hi : Inv s) (u : Tid) (hu : exiting (s.pc u) = true) (hph : ph (s.pc 0) ≤ 13) : u ∈ s.threads :=
  worker_mem_threads hi (Nat.lt_of_not_le fun h4 => hi.exitShut u hu (hi.shutNo h4)) hph u (by revert hu; cases s.pc u <;> simp)

/-- the thread between `pthread_create` and `m_list_insert` has not left its loop: `shutdown` is not set -/
theorem pending_beforeDec (hi : Inv s) (c : Tid) (hc : s.pc c = .sInsert ∨ s.pc c = .nInsert ∨ s.pc c = .mNewInsert) :
    beforeDec (s.pc (s.newTh c)) = true ∧ s.newTh c ∉ s.threads := by
  have hp := (hi.pendPc c).mpr hc
  have h3 := hi.pendSome c hp
  refine ⟨beforeDec_of _ ((hi.workersIff _).mp h3.2.2) ?_, h3.2.1⟩
  cases he : exiting (s.pc (s.newTh c)) with
  | false => rfl
  | true => exact (hi.exitShut _ he (hi.shutNo (pend_ph hi hp))).elim

theorem aliveCnt_step (hi : Inv s) (h : Step s l s') :
    ph (s'.pc 0) ≤ 13 → s'.alive = s'.threads.countP (fun u => beforeDec (s'.pc u)) := by
  intro hp
  have hp' := Nat.le_trans h.ph_mono hp
  have ih := hi.aliveCnt hp'
  -- the threads in the list other than the moving one count as before (a thread just created is not in the list)
  have hoth : ∀ u ∈ s.threads, u ≠ l.tid → beforeDec (s'.pc u) = beforeDec (s.pc u) := fun u hu ht => by
    rcases h.pc_frame ht with e | ⟨e, _⟩
    · rw [e]
    · exact (none_not_thread hi u e hu).elim
  have hcnt (hb : beforeDec (s'.pc l.tid) = beforeDec (s.pc l.tid)) :
      s.threads.countP (fun u => beforeDec (s'.pc u)) = s.threads.countP (fun u => beforeDec (s.pc u)) :=
    List.countP_congr fun u hu => by
      by_cases ht : u = l.tid
      · rw [ht, hb]
      · rw [hoth u hu ht]
  rcases h.alive_cases with ⟨e1, e2, hb⟩ | ⟨hpc, e1, e2, hb⟩ | ⟨hpc, e1, e2, hb⟩ | ⟨hpc, hpc', _⟩
  · rw [e1, e2, hcnt hb, ih]
  · replace hb : beforeDec (s'.pc l.tid) = false := by rw [hb]; split <;> rfl
    have := countP_flip (fun u => beforeDec (s.pc u)) (fun u => beforeDec (s'.pc u)) l.tid s.threads hi.threadsNodup
      (exiting_mem_threads hi _ (by simp [hpc]) hp') (by simp [hpc]) hb hoth
    rw [e1, e2, ih]
    omega
  · -- the new thread is not the inserting one, and has not left its loop
    have hn := pending_beforeDec hi l.tid hpc
    have hne := hi.pendSelf l.tid ((hi.pendPc l.tid).mpr hpc)
    have : beforeDec (s'.pc (s.newTh l.tid)) = true := by
      rcases h.pc_frame hne with e | ⟨e, _⟩
      · rw [e]; exact hn.1
      · rw [e] at hn; cases hn.1
    rw [e1, e2, List.countP_cons, hcnt hb, ← ih, this]
    rfl
  · rw [← zero_of_isM hi (u := l.tid) (by simp [hpc]), hpc'] at hp
    exact absurd hp (by decide)

theorem join_all_done (hi : Inv s) (h0 : s.pc 0 = .fJoin) (hj : s.joinRest = []) (u : Tid) (hu : isW (s.pc u) = true) :
    s.pc u = .wDone := by
  have hm := worker_mem_threads hi (by simp [h0]) (by simp [h0]) u hu
  have := hi.joinCover h0 u hm
  simpa [hj] using this

theorem alive_zero_gone (hi : Inv s) (h0 : s.pc 0 = .fAliveChk) (ha : s.alive = 0) (u : Tid) (hu : isW (s.pc u) = true) :
    gone (s.pc u) = true := by
  have hm := worker_mem_threads hi (by simp [h0]) (by simp [h0]) u hu
  have hc := hi.aliveCnt (by simp [h0])
  rw [ha] at hc
  have hz := List.countP_eq_zero.mp hc.symm u hm
  have hh : holds (s.pc u) = false := by
    cases hh : holds (s.pc u) with
    | false => rfl
    | true =>
      rw [holder_unique hi hh (v := 0) (by simp [h0]), h0] at hu
      cases hu
  exact gone_of _ hu (by simpa using hz) hh

/-- the join loop: thread 0 starts the iteration with the whole list and drops from it a thread it has joined; while it
is in the loop nobody writes the list or the iteration, and a thread that has returned stays returned -/
theorem join_step (hi : Inv s) (h : Step s l s') (hp : s'.pc 0 = .fJoin) :
    (∀ u, u ∈ s'.threads → u ∈ s'.joinRest ∨ s'.pc u = .wDone) ∧ (∀ u, u ∈ s'.joinRest → u ∈ s'.threads) := by
  by_cases h0 : l.tid = 0
  · obtain ⟨t, a⟩ := l
    obtain rfl : t = 0 := h0
    cases h <;> simp only [State.goto, upd_same, *] at hp <;> try contradiction
    case fJoinInit => exact ⟨fun u hu => .inl hu, fun u hu => hu⟩
    case fJoin j rest hj hd hpc =>
      refine ⟨fun u hu => ?_, fun u hu => hi.joinSub hpc u (hj ▸ List.mem_cons_of_mem _ hu)⟩
      rcases hi.joinCover hpc u hu with hm | hd'
      · rcases List.mem_cons.mp (hj ▸ hm) with rfl | hm
        · exact .inr hd
        · exact .inl hm
      · exact .inr hd'
  · rw [h.pc_zero h0] at hp
    rw [threads_shut hi h (by simp [hp]) (by simp [hp]), (h.main_frame (hi.othersNotM _ h0)).2]
    exact ⟨fun u hu => (hi.joinCover hp u hu).imp_right h.wDone_stays, hi.joinSub hp⟩

/-- the two paths of `wait_pool`: thread 0 gets into the wait for `alive == 0` (phase 6) from phase 5, and only with
detached workers; into the join loop (8, 9) from phase 7, and only with joinable ones (`ph_cases`) -/
theorem paths_step (hi : Inv s) (h : Step s l s') :
    (s'.cfg.detached = true → ph (s'.pc 0) ≠ 8 ∧ ph (s'.pc 0) ≠ 9) ∧ (s'.cfg.detached = false → ph (s'.pc 0) ≠ 6) := by
  rw [h.cfg]
  have hc := ph_cases hi h
  have hd := hi.detPath
  have hn := hi.nondetPath
  revert hc hd hn
  cases s.cfg.detached <;> simp <;> omega

/-- a flag that thread 0 sets on entering phase `n` (or a later one) -/
theorem flag_step (hi : Inv s) (h : Step s l s') {b b' : Bool} {n : Nat} {p q : Pc}
    (hc : b' = b ∨ (s.pc l.tid = p ∧ s'.pc l.tid = q)) (hp : isM p = true) (hq : n ≤ ph q)
    (ih : b = true → n ≤ ph (s.pc 0)) : b' = true → n ≤ ph (s'.pc 0) := by
  intro e
  rcases hc with hc | ⟨hc, hc'⟩
  · exact Nat.le_trans (ih (hc ▸ e)) h.ph_mono
  · rwa [← zero_of_isM hi (u := l.tid) (by rw [hc, hp]), hc']

theorem flags_step (hi : Inv s) (h : Step s l s') :
    (s'.condDestroyed = true → 11 ≤ ph (s'.pc 0)) ∧ (s'.mutexDestroyed = true → 12 ≤ ph (s'.pc 0)) ∧
    (s'.poolFreed = true → 15 ≤ ph (s'.pc 0)) :=
  ⟨flag_step hi h h.flags_cases.1 rfl (by decide) hi.flags.1, flag_step hi h h.flags_cases.2.1 rfl (by decide) hi.flags.2.1,
   flag_step hi h h.flags_cases.2.2 rfl (by decide) hi.flags.2.2⟩

/-- When `shutdown` is set and every worker has left its loop and released the mutex, the workers do nothing but
return: nobody creates a thread any more, and a thread does not become a worker by a step of its own. -/
theorem late_step (hi : Inv s) (h : Step s l s') (h5 : 5 ≤ ph (s.pc 0)) (hg : ∀ u, isW (s.pc u) = true → gone (s.pc u) = true)
    (hu : isW (s'.pc u) = true) : isW (s.pc u) = true ∧ (s'.pc u = s.pc u ∨ s'.pc u = .wDone) := by
  by_cases ht : u = l.tid
  · subst ht
    rw [h.isW_self] at hu
    exact ⟨hu, .inr (h.gone_next (hg _ hu)).2⟩
  · rw [pc_other_shut hi h h5 ht] at hu ⊢
    exact ⟨hu, .inl rfl⟩

/-- thread 0 goes on to the teardown (or, with detached workers, to the unlock before it) when the workers are gone -/
theorem goneAll_step (hi : Inv s) (h : Step s l s') :
    (10 ≤ ph (s'.pc 0) ∨ (s'.cfg.detached = true ∧ s'.pc 0 = .fUnlock)) → ∀ u, isW (s'.pc u) = true → gone (s'.pc u) = true := by
  intro hp u hu
  rw [h.cfg] at hp
  have hg : 5 ≤ ph (s.pc 0) ∧ ∀ u, isW (s.pc u) = true → gone (s.pc u) = true := by
    by_cases hq : 10 ≤ ph (s.pc 0) ∨ (s.cfg.detached = true ∧ s.pc 0 = .fUnlock)
    · exact ⟨hq.elim (fun hq => by omega) fun hq => by simp [hq.2], hi.goneAll hq⟩
    · have h0 : l.tid = 0 := Decidable.byContradiction fun h0 => hq (by rwa [h.pc_zero h0] at hp)
      rw [← h0] at hp hq
      rcases hp with hp | ⟨hdet, hp⟩
      · rcases h.to_teardown (fun e => hq (.inl e)) hp with ⟨e, hdet⟩ | ⟨e, hj⟩
        · exact (hq (.inr ⟨hdet, e⟩)).elim
        · rw [h0] at e
          exact ⟨by simp [e], fun u hu => by rw [join_all_done hi e hj u hu]; rfl⟩
      · rcases h.to_fUnlock hp with ⟨_, e⟩ | ⟨e, ha⟩
        · rw [hdet] at e; cases e
        · rw [h0] at e
          exact ⟨by simp [e], alive_zero_gone hi e ha⟩
  obtain ⟨hw, e | e⟩ := late_step hi h hg.1 hg.2 hu
  · rw [e]; exact hg.2 u hw
  · rw [e]; rfl

/-- with joinable workers thread 0 gets to the teardown from the end of the join loop: every worker has been joined -/
theorem doneAll_step (hi : Inv s) (h : Step s l s') :
    s'.cfg.detached = false → 10 ≤ ph (s'.pc 0) → ∀ u, isW (s'.pc u) = true → s'.pc u = .wDone := by
  intro hd hp u hu
  rw [h.cfg] at hd
  have hg : 5 ≤ ph (s.pc 0) ∧ ∀ u, isW (s.pc u) = true → s.pc u = .wDone := by
    by_cases hq : 10 ≤ ph (s.pc 0)
    · exact ⟨by omega, hi.doneAll hd hq⟩
    · have h0 : l.tid = 0 := Decidable.byContradiction fun h0 => hq (by rwa [h.pc_zero h0] at hp)
      rw [← h0] at hp hq
      rcases h.to_teardown hq hp with ⟨_, hdet⟩ | ⟨e, hj⟩
      · rw [hd] at hdet; cases hdet
      · rw [h0] at e
        exact ⟨by simp [e], join_all_done hi e hj⟩
  obtain ⟨hw, e | e⟩ := late_step hi h hg.1 (fun v hv => by rw [hg.2 v hv]; rfl) hu
  · rw [e]; exact hg.2 u hw
  · exact e

theorem waitAlive_step (hi : Inv s) (h : Step s l s') : s'.pc 0 = .fWait → 0 < s'.alive := by
  intro hp
  by_cases h0 : l.tid = 0
  · -- thread 0 comes to `fWait` from the test `alive > 0`
    rw [← h0] at hp
    cases h <;> simp only [State.goto, upd_same, *] at hp <;> try contradiction
    case fAliveChk_wait hc => exact hc
  · -- thread 0 holds the mutex, so no worker is at `alive--`
    rw [h.pc_other (Ne.symm h0) (by simp [hp])] at hp
    rcases h.alive_cases with ⟨_, e, _⟩ | ⟨e, _⟩ | ⟨_, _, e, _⟩ | ⟨e, _⟩
    · rw [e]; exact hi.waitAlive hp
    · exact absurd (holder_unique hi (u := l.tid) (v := 0) (by simp [e]) (by simp [hp])) h0
    · omega
    · exact absurd (zero_of_isM hi (u := l.tid) (by simp [e])) h0

theorem main_waiting (hi : Inv s) (hw : 0 ∈ s.waiters) : s.pc 0 = .fWaiting := by
  have a := hi.waitPc 0 hw
  have b := hi.mainIsM
  revert a b; cases s.pc 0 <;> simp

theorem mainWait_step (hi : Inv s) (h : Step s l s') :
    s'.pc 0 = .fWaiting → 0 ∈ s'.waiters → s'.alive = 0 → ∃ u, s'.pc u = .wExitBcast := by
  intro _ hw ha
  rcases h.waiters_sub hw with hw0 | ⟨h0, hf⟩
  · have hp0 := main_waiting hi hw0
    rcases h.alive_cases with ⟨_, e, _⟩ | ⟨_, _, _, ed⟩ | ⟨_, _, e, _⟩ | ⟨e, _⟩
    · -- the worker that is about to broadcast has not moved: its broadcast would have emptied the wait set
      obtain ⟨u, hu⟩ := hi.mainWait hp0 hw0 (e ▸ ha)
      have hne : u ≠ l.tid := fun e => by subst e; rw [h.exitBcast_waiters hu] at hw; cases hw
      exact ⟨u, ((h.pc_frame hne).resolve_right fun e => by rw [hu] at e; cases e.1).trans hu⟩
    · -- a worker counts `alive` down; the pool is detached, since thread 0 waits
      have hd : s.cfg.detached = true := by
        cases hd : s.cfg.detached
        · have := hi.nondetPath hd; rw [hp0] at this; exact absurd rfl this
        · rfl
      exact ⟨l.tid, by rw [ed, if_pos hd]⟩
    · omega
    · rw [zero_of_isM hi (u := l.tid) (by simp [e]), hp0] at e; cases e
  · -- thread 0 has just begun to wait, and `alive` was positive when it did
    have hf : s.pc 0 = .fWait := hf.resolve_left fun e => by have := hi.mainIsM; rw [e] at this; cases this
    have := hi.waitAlive hf
    rcases h.alive_cases with ⟨_, e, _⟩ | ⟨e, _⟩ | ⟨_, _, e, _⟩ | ⟨e, _⟩
    · omega
    · rw [← h0, hf] at e; cases e
    · omega
    · rw [← h0, hf] at e; cases e

end Lm.Thpool
