import Lm.Core.Machine
/-! Rewrite rules for running a program up to its first suspension (`runP`); the update functions of the model as list operations. -/
namespace Lm.Core

@[simp] theorem bind_assoc' {α β γ} (p : Prog α) (f : α → Prog β) (g : β → Prog γ) :
    (p >>= f) >>= g = p >>= (fun a => f a >>= g) := by
  show (p.bind f).bind g = p.bind fun a => (f a).bind g
  induction p with
  | pure a => rfl
  | get k ih => simp only [Prog.bind, ih]
  | set s p ih => simp only [Prog.bind, ih]
  | call cb m e k ih => simp only [Prog.bind, ih]

@[simp] theorem pure_bind' {α β} (a : α) (f : α → Prog β) : (pure a : Prog α) >>= f = f a := rfl

@[simp] theorem runP_pure {α} (a : α) (s : St) : runP (pure a : Prog α) s = (s, .inl a) := rfl
@[simp] theorem runP_getSt_bind {α} (f : St → Prog α) (s : St) : runP (getSt >>= f) s = runP (f s) s := rfl
@[simp] theorem runP_setSt_bind {α} (x : St) (f : Unit → Prog α) (s : St) : runP (setSt x >>= f) s = runP (f ()) x := rfl
@[simp] theorem runP_modify_bind {α} (g : St → St) (f : Unit → Prog α) (s : St) :
    runP (modify g >>= f) s = runP (f ()) (g s) := rfl
@[simp] theorem runP_getSt (s : St) : runP getSt s = (s, .inl s) := rfl

theorem runP_bind {α β} (f : α → Prog β) (a : α) (s' : St) : ∀ (p : Prog α) (s : St), runP p s = (s', .inl a) → runP (p >>= f) s = runP (f a) s'
  | .pure _, _, h => by cases h; rfl
  | .get k, s, h => runP_bind f a s' (k s) s h
  | .set x p, _, h => runP_bind f a s' p x h
  -- (without this arm the match elaborator rules the case out by itself, but very slowly)
  | .call .., _, h => by cases h

theorem List.map_modify {α β} (g : α → β) {f : α → α} {f' : β → β} (h : ∀ a, g (f a) = f' (g a)) (l : List α) (i : Nat) :
    (l.modify i f).map g = (l.map g).modify i f' := by
  apply List.ext_getElem? fun k => ?_
  simp only [List.getElem?_map, List.getElem?_modify]
  cases l[k]? with
  | none => rfl
  | some a => by_cases hk : i = k <;> simp [hk, h]

theorem List.getElem?_modify_eq_some {α} {l : List α} {i : Nat} {a : α} (h : l[i]? = some a) {f : α → α} {c : α} {k : Nat} :
    (l.modify i f)[k]? = some c ↔ (i = k ∧ f a = c) ∨ (i ≠ k ∧ l[k]? = some c) := by
  by_cases hk : i = k
  · subst hk; simp [h]
  · simp [hk]

theorem List.modify_congr_at {α} {l : List α} {i : Nat} {a : α} {f g : α → α} (ha : l[i]? = some a) (h : f a = g a) :
    l.modify i f = l.modify i g := by
  apply List.ext_getElem? fun k => ?_
  by_cases hk : i = k
  · subst hk; simp [ha, h]
  · simp [hk]

theorem List.modify_fix {α} {l : List α} {i : Nat} {a : α} {f : α → α} (ha : l[i]? = some a) (h : f a = a) : l.modify i f = l := by
  rw [List.modify_congr_at (g := id) ha h, List.modify_id]

theorem List.getElem?_concat_eq_some {α} {l : List α} {a b : α} {k : Nat} :
    (l ++ [a])[k]? = some b ↔ l[k]? = some b ∨ (k = l.length ∧ a = b) := by
  rcases Nat.lt_trichotomy k l.length with h | h | h
  · rw [List.getElem?_append_left h]
    exact ⟨.inl, fun h' => h'.elim id fun h'' => absurd h''.1 (Nat.ne_of_lt h)⟩
  · subst h; simp
  · rw [List.getElem?_eq_none (by simp; omega), List.getElem?_eq_none (Nat.le_of_lt h)]
    exact ⟨nofun, fun h' => h'.elim nofun fun h'' => absurd h''.1 (Nat.ne_of_gt h)⟩

theorem updMod_eq (s : St) (m : ModId) (f : Mod → Mod) : s.updMod m f = { s with mods := s.mods.modify m f } := by
  unfold St.updMod
  cases h : s.mods[m]? with
  | none => rw [List.modify_eq_self (by simpa using h)]
  | some md => simp [List.modify_eq_set, h]

theorem updMod_getElem? (s : St) (m k : ModId) (f : Mod → Mod) :
    (s.updMod m f).mods[k]? = (s.mods[k]?).map fun md => if m = k then f md else md := by
  rw [updMod_eq]; exact List.getElem?_modify f m s.mods k

theorem updMod_getElem?_self (s : St) (m : ModId) (f : Mod → Mod) : (s.updMod m f).mods[m]? = (s.mods[m]?).map f := by
  rw [updMod_getElem?]; simp only [if_true]

theorem updMod_self {s : St} {m : ModId} {md : Mod} (f : Mod → Mod) (h : s.mods[m]? = some md) :
    (s.updMod m f).mods[m]? = some (f md) := by
  rw [updMod_getElem?_self, h]; rfl

theorem updSrc_eq (s : St) (i : SrcId) (f : Src → Src) : s.updSrc i f = { s with srcs := s.srcs.modify i f } := by
  unfold St.updSrc
  cases h : s.srcs[i]? with
  | none => rw [List.modify_eq_self (by simpa using h)]
  | some x => simp [List.modify_eq_set, h]

theorem holderRef_eq (s : St) (h) : ∃ hs, holderRef s h = { s with holders := hs } := by
  unfold holderRef; split
  · exact ⟨_, rfl⟩
  · split <;> exact ⟨_, rfl⟩

theorem holderUnref_eq (s : St) (h) : ∃ hs o, holderUnref s h = { s with holders := hs, out := o } := by
  unfold holderUnref; split
  · exact ⟨_, _, rfl⟩
  · split
    · split <;> exact ⟨_, _, rfl⟩
    · exact ⟨_, _, rfl⟩

def Refuses {α} (p : Prog α) (s : St) (a : α) : Prop := runP p s = (s, .inl a)

end Lm.Core
