import Lm.Core.Types
/-!
# Library code as programs with a "user callback" effect, and the program logic `wp`

`call` is a suspension point: the user callback may issue any finite sequence of API calls before it
returns, so after it the continuation must be correct from *any* state satisfying the invariant.
-/
namespace Lm.Core

inductive Prog (α : Type) : Type
  | pure : α → Prog α
  | get  : (St → Prog α) → Prog α
  | set  : St → Prog α → Prog α
  | call : Cb → ModId → List Evt → (Bool → Prog α) → Prog α

namespace Prog
def bind {α β} : Prog α → (α → Prog β) → Prog β
  | .pure a, f => f a
  | .get k, f => .get (fun s => (k s).bind f)
  | .set s p, f => .set s (p.bind f)
  | .call cb m e k, f => .call cb m e (fun b => (k b).bind f)
end Prog

instance : Monad Prog where
  pure := .pure
  bind := Prog.bind

def getSt : Prog St := .get .pure
def setSt (s : St) : Prog Unit := .set s (.pure ())
def modify (f : St → St) : Prog Unit := .get (fun s => .set (f s) (.pure ()))
def callCb (cb : Cb) (m : ModId) (e : List Evt := []) : Prog Bool := .call cb m e .pure

/-- run a program until it returns or suspends at a callback -/
def runP {α} : Prog α → St → St × (α ⊕ (Cb × ModId × List Evt × (Bool → Prog α)))
  | .pure a, s => (s, .inl a)
  | .get k, s => runP (k s) s
  | .set s' p, _ => runP p s'
  | .call cb m e k, s => (s, .inr (cb, m, e, k))

/-- weakest precondition with invariant `I` required at every suspension point -/
def wp {α} (I : St → Prop) : Prog α → (α → St → Prop) → St → Prop
  | .pure a, Q, s => Q a s
  | .get k, Q, s => wp I (k s) Q s
  | .set s' p, Q, _ => wp I p Q s'
  | .call _ _ _ k, Q, s => I s ∧ ∀ b s', I s' → wp I (k b) Q s'

theorem wp_bind {α β} (I : St → Prop) (p : Prog α) (f : α → Prog β) (Q : β → St → Prop) (s : St) :
    wp I (p.bind f) Q s ↔ wp I p (fun a s' => wp I (f a) Q s') s := by
  induction p generalizing s with
  | pure a => rfl
  | get k ih => exact ih s s
  | set s' p ih => exact ih s'
  | call cb m e k ih => simp only [Prog.bind, wp, ih]

theorem wp_mono {α} (I : St → Prop) (p : Prog α) (Q Q' : α → St → Prop) (s : St)
    (h : ∀ a s, Q a s → Q' a s) : wp I p Q s → wp I p Q' s := by
  induction p generalizing s with
  | pure a => exact h a s
  | get k ih => exact ih s s
  | set s' p ih => exact ih s'
  | call cb m e k ih => rintro ⟨h1, h2⟩; exact ⟨h1, fun b s' hs => ih b s' (h2 b s' hs)⟩

@[simp] theorem wp_pure {α} (I) (a : α) (Q) (s) : wp I (pure a : Prog α) Q s = Q a s := rfl
@[simp] theorem wp_bind' {α β} (I : St → Prop) (p : Prog α) (f : α → Prog β) (Q) (s : St) :
    wp I (p >>= f) Q s ↔ wp I p (fun a s' => wp I (f a) Q s') s := wp_bind I p f Q s
@[simp] theorem wp_getSt (I) (Q : St → St → Prop) (s) : wp I getSt Q s = Q s s := rfl
@[simp] theorem wp_setSt (I) (x : St) (Q : Unit → St → Prop) (s) : wp I (setSt x) Q s = Q () x := rfl
@[simp] theorem wp_modify (I) (f : St → St) (Q : Unit → St → Prop) (s) : wp I (modify f) Q s = Q () (f s) := rfl
@[simp] theorem wp_callCb (I) (cb m e) (Q : Bool → St → Prop) (s) :
    wp I (callCb cb m e) Q s = (I s ∧ ∀ b s', I s' → Q b s') := rfl

/-- a program is *safe for `I`*: started in an `I`-state it keeps `I` at every callback boundary and at return -/
def Safe {α} (I : St → Prop) (p : Prog α) : Prop := ∀ s, I s → wp I p (fun _ s' => I s') s

end Lm.Core
