import Lm.Core.Lemmas
/-!
# Rely/guarantee program logic for re-entrant callbacks, and its soundness for the machine

A callback may run any API programs before it returns.  So `wpA I M p Q a s` asks, at every callback of `p`, for the
invariant `I` and for `M a s` (`a`, the anchor, is the state in which `p` was started), and lets `p` go on from **any**
`s'` with `I s'` and `M s s'`: what `SafeA` says every API program guarantees from its start to its end.  `run_ok` lifts
`SafeA` of the API programs to every configuration reachable by any line sequence: arbitrary callback programs, nesting
depth and return values.
-/
namespace Lm.Core

def wpA {α} (I : St → Prop) (M : St → St → Prop) : Prog α → (α → St → Prop) → St → St → Prop
  | .pure x, Q, _, s => Q x s
  | .get k, Q, a, s => wpA I M (k s) Q a s
  | .set s' p, Q, a, _ => wpA I M p Q a s'
  | .call _ _ _ k, Q, a, s => I s ∧ M a s ∧ ∀ b s', I s' → M s s' → wpA I M (k b) Q a s'

@[simp] theorem wpA_bind' {α β} (I M) (p : Prog α) (f : α → Prog β) (Q : β → St → Prop) (a s : St) :
    wpA I M (p >>= f) Q a s ↔ wpA I M p (fun x s' => wpA I M (f x) Q a s') a s := by
  show wpA I M (p.bind f) Q a s ↔ _
  induction p generalizing s with
  | pure x => rfl
  | get k ih => exact ih s s
  | set s' p ih => exact ih s'
  | call cb m e k ih => simp only [Prog.bind, wpA, ih]

theorem wpA_mono {α} (I M) (p : Prog α) (Q Q' : α → St → Prop) (a s : St)
    (h : ∀ x s, Q x s → Q' x s) : wpA I M p Q a s → wpA I M p Q' a s := by
  induction p generalizing s with
  | pure x => exact h x s
  | get k ih => exact ih s s
  | set s' p ih => exact ih s'
  | call cb m e k ih => rintro ⟨h1, h2, h3⟩; exact ⟨h1, h2, fun b s' hs hm => ih b s' (h3 b s' hs hm)⟩

theorem wpA_anchor {α} (I M) (htrans : ∀ a b c : St, M a b → M b c → M a c) (p : Prog α) (Q : α → St → Prop)
    {a a' : St} (h : M a' a) : ∀ s, wpA I M p Q a s → wpA I M p Q a' s := by
  induction p with
  | pure x => exact fun _ hw => hw
  | get k ih => exact fun s => ih s s
  | set s' p ih => exact fun _ => ih s'
  | call cb m e k ih => exact fun s ⟨h1, h2, h3⟩ => ⟨h1, htrans _ _ _ h h2, fun b s' hs hm => ih b s' (h3 b s' hs hm)⟩

@[simp] theorem wpA_pure {α} (I M) (x : α) (Q) (a s) : wpA I M (pure x : Prog α) Q a s = Q x s := rfl
@[simp] theorem wpA_getSt (I M) (Q : St → St → Prop) (a s) : wpA I M getSt Q a s = Q s s := rfl
@[simp] theorem wpA_setSt (I M) (x : St) (Q : Unit → St → Prop) (a s) : wpA I M (setSt x) Q a s = Q () x := rfl
@[simp] theorem wpA_modify (I M) (f : St → St) (Q : Unit → St → Prop) (a s) :
    wpA I M (modify f) Q a s = Q () (f s) := rfl
@[simp] theorem wpA_callCb (I M) (cb m e) (Q : Bool → St → Prop) (a s) :
    wpA I M (callCb cb m e) Q a s =
      (I s ∧ M a s ∧ ∀ b s', I s' → M s s' → Q b s') := rfl

theorem wpA_and {α} (I1 I2 : St → Prop) (M) (p : Prog α) (Q1 Q2 : α → St → Prop) (a s : St) :
    wpA I1 M p Q1 a s → wpA I2 M p Q2 a s → wpA (fun s => I1 s ∧ I2 s) M p (fun x s => Q1 x s ∧ Q2 x s) a s := by
  induction p generalizing s with
  | pure x => exact fun h1 h2 => ⟨h1, h2⟩
  | get k ih => exact ih s s
  | set s' p ih => exact ih s'
  | call cb m e k ih =>
    rintro ⟨h1, h2, h3⟩ ⟨g1, _, g3⟩
    exact ⟨⟨h1, g1⟩, h2, fun b s' hs hm => ih b s' (h3 b s' hs.1 hm) (g3 b s' hs.2 hm)⟩

def Post (I : St → Prop) (M : St → St → Prop) (a : St) : Int → St → Prop :=
  fun _ s' => I s' ∧ M a s'

def SafeA (I : St → Prop) (M : St → St → Prop) (p : Prog Int) : Prop :=
  ∀ s, I s → wpA I M p (Post I M s) s s

structure Frameable (I : St → Prop) (M : St → St → Prop) : Prop where
  refl : ∀ s, M s s
  trans : ∀ a b c, M a b → M b c → M a c
  emitI : ∀ s o, I s → I (s.emit o)
  emitM : ∀ a s o, M a s → M a (s.emit o)
  errnoI : ∀ s e, I s → I { s with errno := e }
  errnoM : ∀ a s e, M a s → M a { s with errno := e }

@[simp] theorem currOf_emit (s : St) (o : Out) : currOf (s.emit o) = currOf s := rfl

def ChainOK (I : St → Prop) (M : St → St → Prop) : St → List Frame → Prop
  | _, [] => True
  | cur, f :: rest =>
    -- the innermost frame can be resumed from the current state …
    M f.susp cur ∧
    (∀ b s', I s' → M f.susp s' → wpA I M (f.k b) (Post I M f.anchor) f.anchor s') ∧
    -- … and its program was started when the frame below was the innermost one
    ChainOK I M f.anchor rest

def CfgOK (I : St → Prop) (M : St → St → Prop) (c : Cfg) : Prop := I c.st ∧ ChainOK I M c.st c.stack

theorem ChainOK.step {I M} (fr : Frameable I M) {cur cur' : St} : ∀ {stack : List Frame},
    ChainOK I M cur stack → M cur cur' → ChainOK I M cur' stack
  | [], _, _ => trivial
  | _ :: _, ⟨h1, h3, h4⟩, hm => ⟨fr.trans _ _ _ h1 hm, h3, h4⟩

theorem exec_ok (I M) (fr : Frameable I M) (p : Prog Int) : ∀ (c : Cfg) (anchor : St),
    ChainOK I M anchor c.stack → wpA I M p (Post I M anchor) anchor c.st →
    CfgOK I M (exec c anchor p) := by
  induction p with
  | pure x =>
    intro c anchor hch ⟨h1, h2⟩
    exact ⟨fr.emitI _ _ h1, hch.step fr (fr.emitM _ _ _ h2)⟩
  | get k ih => exact fun c => ih c.st c
  | set s' p ih => exact fun c => ih { c with st := s' }
  | call cb m e k _ =>
    intro c anchor hch ⟨h1, h2, h3⟩
    exact ⟨fr.emitI _ _ h1, fr.emitM _ _ _ (fr.refl _), h3, hch⟩

theorem CfgOK.emit {I M} (fr : Frameable I M) {c : Cfg} (h : CfgOK I M c) (o : Out) : CfgOK I M { c with st := c.st.emit o } :=
  ⟨fr.emitI _ _ h.1, h.2.step fr (fr.emitM _ _ _ (fr.refl _))⟩

theorem step_ok (I M) (fr : Frameable I M) (hsafe : ∀ (c : Cfg) (op : Op), SafeA I M (apiProg c op))
    (c : Cfg) (op : Op) (h : CfgOK I M c) : CfgOK I M (step c op) := by
  unfold step
  split
  · split
    · exact h
    · next f rest hs =>
      have hch : ChainOK I M c.st (f :: rest) := hs ▸ h.2
      exact exec_ok I M fr (f.k _) { c with stack := rest } f.anchor hch.2.2 (hch.2.1 _ c.st h.1 hch.1)
  · exact ⟨fr.errnoI _ _ h.1, h.2.step fr (fr.errnoM _ _ _ (fr.refl _))⟩
  · simp only [foreignStep]
    split
    · split
      · exact h.emit fr _
      · exact (h.emit fr _).emit fr _
    · exact (h.emit fr _).emit fr _
  · simp only [xtellStep]
    split
    · split
      · exact h.emit fr _
      · exact (h.emit fr _).emit fr _
    · exact (h.emit fr _).emit fr _
  · exact exec_ok I M fr _ c c.st h.2 (hsafe c _ c.st h.1)

theorem run_ok (I M) (fr : Frameable I M) (hsafe : ∀ (c : Cfg) (op : Op), SafeA I M (apiProg c op)) :
    ∀ (ops : List Op) (c : Cfg), CfgOK I M c → CfgOK I M (run c ops)
  | [], _, h => h
  | o :: os, c, h => run_ok I M fr hsafe os _ (step_ok I M fr hsafe c o h)

end Lm.Core
